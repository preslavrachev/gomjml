-- Root of the `Gomjml` library: every property module with its axiom audit (and through them every model and lemma
-- module), and the modules only the driver or the harness use.
import Gomjml.Audit.C01
import Gomjml.Audit.C02
import Gomjml.Audit.C03
import Gomjml.Audit.C04
import Gomjml.Audit.C05
import Gomjml.Audit.C06
import Gomjml.Audit.C07
import Gomjml.Audit.C08
import Gomjml.Audit.C09
import Gomjml.Audit.C10
import Gomjml.Audit.C11
import Gomjml.Audit.C12
import Gomjml.Audit.C13
import Gomjml.Audit.C14
import Gomjml.Audit.C15
import Gomjml.Audit.C16
import Gomjml.Audit.C17
import Gomjml.Audit.C18
import Gomjml.Audit.C19
import Gomjml.Audit.C20
import Gomjml.Core.Lexer
import Gomjml.Gen.Hooks
import Gomjml.Gen.OptsWrites
