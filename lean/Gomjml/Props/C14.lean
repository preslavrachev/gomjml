import Gomjml.Core.Cache
import Gomjml.Gen.Misc
/-! # C14 — fixed TTL, eviction, safe configuration

Model and lemmas: `Core/Cache.lean`; two regenerated facts about the source at the end. -/
namespace Gomjml.Props.C14
open Gomjml.Cache

/-- reuse strictly before expiry: the compilation is a hit, nothing in the cache changes (in particular the expiry
    is not extended) and the parser is not called -/
theorem C14_hit (w : World) (s : CS) (d : Doc) (o : Opt) (e : Entry) (hs : s.store (w.hash d) = some e) (hnow : s.now < e.expires) :
    (step w s (.render d true o)).1 = arm s ∧ (step w s (.render d true o)).1.parses = s.parses ∧
    (step w s (.render d true o)).1.store (w.hash d) = some e := by
  rw [step_hit w o hs hnow]
  exact ⟨rfl, arm_parses s, by rw [arm_store]; exact hs⟩

/-- never at or after expiry: the entry is dropped, the document is parsed again (exactly once) and re-cached with a
    fresh stamp -/
theorem C14_expired (w : World) (s : CS) (d : Doc) (o : Opt) (e : Entry) (hs : s.store (w.hash d) = some e) (hnow : e.expires ≤ s.now)
    (a : Ast) (hp : w.parse d = .ok a) :
    (step w s (.render d true o)).1.store (w.hash d) = some ⟨a, s.now + s.ttl, s.now, s.ttl⟩ ∧
    (step w s (.render d true o)).1.parses = s.parses + 1 := by
  rw [step_expired w o hs hnow, miss_fst]
  simp only [hp, if_true, evict, arm_now, arm_ttl, arm_parses, and_self]

/-- fixed TTL: in every reachable state every entry expires exactly `ttl-at-store-time` after it was stored -/
theorem C14_fixed_ttl (w : World) (ttl : Int) (ops : List Op) (k : CKey) (e : Entry)
    (h : (runOps w (init ttl) ops).1.store k = some e) :
    e.expires = e.stored + e.ttlAt ∧ e.stored ≤ (runOps w (init ttl) ops).1.now :=
  (inv_reachable w ttl ops).stamp k e h

/-- eviction: after one sweep of a live cleaner no entry past its expiry remains (when sweeps happen is outside the model) -/
theorem C14_sweep (w : World) (s : CS) (hc : s.cleaner = true) (k : CKey) (e : Entry)
    (h : (step w s .tick).1.store k = some e) : e.expires ≥ s.now := after_tick w s hc k e h

/-- the ticker is always created with a positive duration -/
theorem C14_ticker_positive (w : World) (ttl : Int) (ops : List Op) : 0 < tickerArg (runOps w (init ttl) ops).1 :=
  ticker_positive _

/-- once-only setters -/
theorem C14_setTTL_once (w : World) (s : CS) (d d' : Int) :
    (step w (step w s (.setTTL d)).1 (.setTTL d')).1 = (step w s (.setTTL d)).1 := by
  cases h : s.ttlDone <;> simp only [step, h, if_true, if_false, Bool.false_eq_true]
theorem C14_setInterval_once (w : World) (s : CS) (d d' : Int) :
    (step w (step w s (.setInterval d)).1 (.setInterval d')).1 = (step w s (.setInterval d)).1 := by
  cases h : s.intDone <;> simp only [step, h, if_true, if_false, Bool.false_eq_true]
theorem C14_setTTL_first (w : World) (s : CS) (d : Int) (h : s.ttlDone = false) : (step w s (.setTTL d)).1.ttl = d := by
  simp only [step, h]; rfl
theorem C14_setInterval_first (w : World) (s : CS) (d : Int) (h : s.intDone = false) :
    (step w s (.setInterval d)).1.interval = d := by
  simp only [step, h]; rfl
theorem C14_ttl_then_interval (w : World) (ttl d i : Int) :
    (step w (step w (init ttl) (.setTTL d)).1 (.setInterval i)).1.interval = i := rfl

/-- non-vacuity for the hit / expired hypotheses -/
def wEx : World := { parse := fun d => .ok (d + 10), rend := fun a _ => a, hash := fun d => d }
example : ∃ (s : CS) (e : Entry), s.store 0 = some e ∧ s.now < e.expires :=
  ⟨(runOps wEx (init 100) [.render 0 true 0]).1, ⟨10, 100, 0, 100⟩, by decide, by decide⟩
example : ∃ (s : CS) (e : Entry), s.store 0 = some e ∧ e.expires ≤ s.now :=
  ⟨(runOps wEx (init 100) [.render 0 true 0, .advance 100]).1, ⟨10, 100, 0, 100⟩, by decide, by decide⟩

/-- Regenerated fact: the only comparisons between times on the cache path are the strict `Before` on lookup and the
    strict `After` in the sweep. -/
theorem C14_time_comparisons :
    Gomjml.Gen.Misc.timeComparisons =
      [("mjml.parseAST", "Before", "time.Now()", "entry.expires"),
       ("mjml.startASTCacheCleanup", "After", "now", "entry.expires")] := rfl

/-- Regenerated fact: an entry's expiry is computed in one place, as `time.Now().Add(ttl)` (saturating: a huge TTL gives the
    far future, never the past). -/
theorem C14_expiry_expression : Gomjml.Gen.Misc.expiryExprs = [("mjml.parseAST", "time.Now().Add(ttl)")] := rfl

end Gomjml.Props.C14
