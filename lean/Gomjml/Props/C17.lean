import Gomjml.Core.Validate
import Gomjml.Core.Api
import Gomjml.Core.Lines
import Gomjml.Core.ErrorValue
/-! # C17 — validation errors are exact and never suppress the HTML (property theorems only) -/
namespace Gomjml.Props.C17
open Gomjml.Validate

/-- no invalid-attribute error is reported **iff** every attribute of every element is accepted by its component -/
theorem C17_error_iff (N : Names) (allowed) (es : List Elem) :
    reports N allowed es = [] ↔ ∀ e ∈ es, ∀ a ∈ e.attrs, accepted N allowed e.tag a = true := reports_nil_iff N allowed es

/-- … the details are offending (tag, attribute, line) triples of the document **and nothing else** … -/
theorem C17_details_sound (N : Names) (allowed) (es : List Elem) (r : String × String × Nat) (h : r ∈ reports N allowed es) :
    ∃ e ∈ es, r.1 = e.tag ∧ r.2.1 ∈ e.attrs ∧ r.2.2 = e.line ∧ accepted N allowed e.tag r.2.1 = false :=
  reports_sound N allowed es r h

/-- … **each once** per element -/
theorem C17_each_once (N : Names) (allowed) (e : Elem) (hnd : e.attrs.Nodup) (a : String) (ha : a ∈ e.attrs)
    (hbad : accepted N allowed e.tag a = false) : (reportsOf N allowed e).count (e.tag, a, e.line) = 1 :=
  reportsOf_count N allowed e hnd a ha hbad

/-- data-*, aria-*, css-class, mj-class and class are always accepted, whatever the component -/
theorem C17_always_accepted (N : Names) (allowed) (tag a : String) (ha : a ≠ "")
    (h : N.isData a = true ∨ N.isAria a = true ∨ a = "mj-class" ∨ a = "css-class" ∨ a = "class") :
    accepted N allowed tag a = true := always_accepted N allowed tag a ha h

/-- the line lookup returns 1 + the number of newlines in front of the offset, for every content and offset -/
theorem C17_line_lookup (content : List UInt8) (offset : Nat) : lineImpl content offset = lineSpec content offset :=
  line_correct content offset

/-- the HTML returned alongside the error is the HTML the document yields anyway -/
theorem C17_html_unchanged (w w' : Gomjml.Api.World) (s : Gomjml.Api.St) (d : Gomjml.Api.Doc) (hp : w.parse d = .ok ())
    (hsame : w'.parse = w.parse ∧ w'.attrs = w.attrs ∧ w'.html = w.html ∧ w'.reorder = w.reorder ∧ w'.renderErr = w.renderErr)
    (e : Gomjml.Api.Err) (hr : w.renderErr d = none) (hv : w.validation d = some e) (hv' : w'.validation d = none) :
    ∃ html, (Gomjml.Api.step w s (.render d)).2 = .okValidation html e ∧ (Gomjml.Api.step w' s (.render d)).2 = .ok html := by
  obtain ⟨h1, h2, h3, h4, h5⟩ := hsame
  refine ⟨w.reorder (w.html d (w.attrs d) (w.attrs d) []), ?_, ?_⟩
  · simp only [Api.step, hp, Api.finish, hr, hv]
  · simp only [Api.step, h1, hp, Api.finish, h5, hr, hv', h2, h3, h4]

/-- non-vacuity: one accepted, one always-accepted and one offending attribute on a real table -/
def N0 : Names := ⟨fun a => a == "data-x", fun _ => false⟩
example : reports N0 Gomjml.Gen.Allowed.allowed [⟨"mj-text", ["color", "data-x", "bogus"], 7⟩] = [("mj-text", "bogus", 7)] := by
  decide +kernel

/-- Regenerated facts: the validator runs in `NewBaseComponent` and nowhere else, the reporter is invoked only by the
    validator; every component with an attribute table is built by the factory (`mj-breakpoint` has a table but no component) -/
theorem C17_sites :
    Gomjml.Gen.Allowed.validationSites =
      [("report", "mjml/components.validateComponentAttributes"), ("validate", "mjml/components.NewBaseComponent")] ∧
    ∀ r ∈ Gomjml.Gen.Allowed.allowed, r.1 ∈ Gomjml.Gen.Allowed.factoryTags ∨ r.1 = "mj-breakpoint" :=
  ⟨rfl, by decide +kernel⟩

/-! ## the reported line is a line of the ORIGINAL input

    `ParseMJML` rewrites the text three times (comments and blank lines in front of the root go, entities are replaced,
    the content of every mj-text is wrapped into CDATA, its void tags normalised) and looks the line of an
    element up in the rewritten text, adding the number of stripped lines.  The Models of the three passes are byte-exact
    (correspondence on every run); what follows holds for **every** input text. -/
open Gomjml.Lines Gomjml.Passes

/-- `wrapMJTextContent` as an edit script: the segments are segments of the input, the output is what the segments write, and
    no replaced piece gains or loses a line feed -/
theorem C17_wrap_moves_no_line (s : List UInt8) :
    srcOf (wrapSegs (s.length + 1) s) = s ∧ dstOf (wrapSegs (s.length + 1) s) = wrap s ∧ LineOk (wrapSegs (s.length + 1) s) :=
  (wrapSegs_script _ s).conj

/-- the same for the ampersand pass and for every regenerated `replaceInMarkup` step of `preprocessHTMLEntities` -/
theorem C17_entities_move_no_line (s : List UInt8) :
    (srcOf (escSegs entTable false 0 0 0 s) = s ∧ dstOf (escSegs entTable false 0 0 0 s) = escapeAmp s ∧ LineOk (escSegs entTable false 0 0 0 s)) ∧
    ∀ st ∈ Gomjml.Gen.Parser.entityStepsB,
      srcOf (replSegsM st.1 st.2 s) = s ∧ dstOf (replSegsM st.1 st.2 s) = replaceAllM st.1 st.2 s ∧ LineOk (replSegsM st.1 st.2 s) :=
  ⟨(escSegs_script entTable s false 0 0 0).conj, fun st hst => (replSegsM_script _ _ (steps_no_lf st hst) s).conj⟩

/-- **the reported line is the line of the same place in the input.**  Take any input `s` with a root element (`p` in front
    of it), a place `m` bytes behind the start of the root, and the offset `k` of the same place in the text the decoder reads
    (the same kept byte through all three passes, `PipeRel`).  The line `lineLookup` reports for `k` (`lineImpl`), plus the
    line base `strings.Count(input, "\n") - strings.Count(stripped, "\n")`, is 1 + the number of line feeds in front of
    that place **in the input** -/
theorem C17_reported_line_is_input_line (s p root : List UInt8) (h : splitAtRoot s = some (p, root)) (m k : Nat)
    (hrel : PipeRel s ((trimLeft (dropComments p)).length + m) k) :
    lineImpl (preprocess s) k + (nl s - nl (strip s)) = lineSpec s (p.length + m) := by
  rw [C17_line_lookup]
  show 1 + nl ((preprocess s).take k) + (nl s - nl (strip s)) = 1 + nl (s.take (p.length + m))
  rw [← strip_lines s p root h m, pipe_lines s _ k hrel, Nat.add_assoc]

/-- what the Models of the passes are written with is what the source is written with (regenerated): the needles and CDATA
    delimiters of `wrapMJTextContent`, the literals of the void-tag pattern and of its replacement, the void element names
    (none contains `>` or a capital), and `ParseMJML`'s use of the passes, of the line base and of the decoder's input -/
theorem C17_prepass_source :
    Gomjml.Gen.Parser.wrapConstsB =
      [("cdataEnd", cdEnd), ("cdataEndSafe", cdEndSafe), ("cdataStart", cdStart), ("closeNeedle", stem ++ [62]), ("openNeedle", openN)] ∧
    Gomjml.Gen.Parser.voidNormaliserLits =
      [("buildVoidElementsRegexPattern", "(?i)<(?:"), ("buildVoidElementsRegexPattern", "|"),
       ("buildVoidElementsRegexPattern", ")([^>]*?)/>"), ("normalizeSelfClosingVoidTags", " "), ("normalizeSelfClosingVoidTags", " />")] ∧
    (∀ n ∈ Gomjml.Gen.Parser.voidElementsB, n ≠ [] ∧ ∀ b ∈ n, 97 ≤ b ∧ b ≤ 122) ∧
    Gomjml.Gen.Parser.parsePipeline =
      [("processedContent", "stripNonMSOComments(mjmlContent)"),
       ("strippedLines", "strings.Count(mjmlContent, \"\\n\") - strings.Count(processedContent, \"\\n\")"),
       ("processedContent", "preprocessHTMLEntities(processedContent)"),
       ("processedContent", "wrapMJTextContent(processedContent)"),
       ("contentBytes", "[]byte(processedContent)"),
       ("lookup", "newLineLookup(contentBytes)"),
       ("lookup.lineBase", "strippedLines"),
       ("decoder", "xml.NewDecoder(bytes.NewReader(contentBytes))")] :=
  ⟨rfl, rfl, by decide +kernel, rfl⟩

/-- non-vacuity of `Rel`: behind a replaced piece of another length a kept byte is related to its shifted copy -/
example : Rel [.keep [1, 2], .repl [3] [4, 5, 6], .keep [7, 10, 8]] 5 7 :=
  ⟨[.keep [1, 2], .repl [3] [4, 5, 6]], [7, 10, 8], [], 2, rfl, by decide, rfl, rfl⟩

/-- **the error value keeps every report**: the reporter closure (first report creates the error, later ones are appended) yields
    one detail per report, in the order of the reports — two reports that look alike (same tag, attribute and line: two elements
    on one line) stay two details; without a report there is no error -/
theorem C17_error_value (rs : List Gomjml.ErrorValue.Report) :
    Gomjml.ErrorValue.collect rs =
      (if rs = [] then none else some ⟨"MJML compilation error", rs.map Gomjml.ErrorValue.detailOf⟩) :=
  Gomjml.ErrorValue.collect_spec rs

end Gomjml.Props.C17
