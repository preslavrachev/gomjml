import Gomjml.Core.SingleFlightLive
import Gomjml.Core.Cache
import Gomjml.Core.CacheConc
import Gomjml.Gen.PkgVars
import Gomjml.Gen.Census
/-! # C15 — single-flight parsing and cleanup lifecycle are safe under every schedule

`runSched (init key parse) σ` is the state after a schedule `σ` of the atomic steps of `singleflightDo`.
Cleanup: `Core/Cache.lean`; the waiter: `Core/CacheConc.lean`. -/
namespace Gomjml.Props.C15
open Gomjml.SingleFlight

/-- parses of the same template never overlap in time, under every schedule -/
theorem C15_no_overlap (key : Tid → Key) (parse : Tid → Res) (σ : List Tid) (t u : Tid)
    (hk : key t = key u)
    (ht : (runSched (init key parse) σ).pc t = .parsing) (hu : (runSched (init key parse) σ).pc u = .parsing) : t = u :=
  no_overlap _ (inv_reachable key parse σ) t u (by rw [runSched_key]; exact hk) ht hu

/-- every caller that returns holds the result of a parse of its own template: its own, or the one of the goroutine
    that did the work — complete, never a partial result -/
theorem C15_handover (key : Tid → Key) (parse : Tid → Res) (σ : List Tid) (t : Tid) (r : Option Res) (w : Option Tid)
    (ht : (runSched (init key parse) σ).pc t = .ret r w) :
    ∃ c, (runSched (init key parse) σ).key c = (runSched (init key parse) σ).key t ∧
         r = some ((runSched (init key parse) σ).parse c) :=
  handover _ (inv_reachable key parse σ) t r w ht

/-- no deadlock: in every reachable state, if some caller has not returned, some goroutine can step -/
theorem C15_no_deadlock (key : Tid → Key) (parse : Tid → Res) (σ : List Tid) (t : Tid)
    (ht : ∀ r w, (runSched (init key parse) σ).pc t ≠ .ret r w) :
    ∃ u, (step (runSched (init key parse) σ) u).isSome = true :=
  progress _ (inv_reachable key parse σ) (live_reachable key parse σ) t ht

/-- cleanup lifecycle (start/stop are atomic under `cacheCleanupMutex`): in every reachable state of the cache machine at
    most one cleanup goroutine is live (uncancelled) -/
theorem C15_one_cleaner (w : Gomjml.Cache.World) (ttl : Int) (ops : List Gomjml.Cache.Op) :
    (Gomjml.Cache.runOps w (Gomjml.Cache.init ttl) ops).1.spawned - (Gomjml.Cache.runOps w (Gomjml.Cache.init ttl) ops).1.cancelled ≤ 1 :=
  Gomjml.Cache.live_cleaners w _ (Gomjml.Cache.inv_reachable w ttl ops)

/-- stopping cancels it; the next cached compilation starts exactly one again -/
theorem C15_stop_then_restart (w : Gomjml.Cache.World) (s : Gomjml.Cache.CS) (d : Gomjml.Cache.Doc) (o : Gomjml.Cache.Opt) :
    (Gomjml.Cache.step w s .stop).1.cleaner = false ∧
    (let s1 := (Gomjml.Cache.step w s .stop).1
     let s2 := (Gomjml.Cache.step w s1 (.render d true o)).1
     s2.cleaner = true ∧ s2.spawned = s1.spawned + 1) :=
  ⟨Gomjml.Cache.stop_then_none w s, Gomjml.Cache.use_after_stop_starts_one w s d o⟩

/-- every caller receives the result of the goroutine that did the work, and that is a parse of the caller's own template —
    inside the whole cache machinery, for every schedule -/
theorem C15_waiter_gets_own_parse (w : Gomjml.Cache.World) (j : Gomjml.CacheConc.Job) (hinj : ∀ d d', w.hash d = w.hash d' → d = d')
    (ttl : Int) (σ : List Gomjml.CacheConc.Ev) (t l : Nat) (r : Except Gomjml.Cache.Err Gomjml.Cache.Ast)
    (hw : (Gomjml.CacheConc.run w j (Gomjml.CacheConc.init ttl) σ).pc t = .waiting l)
    (hr : (Gomjml.CacheConc.run w j (Gomjml.CacheConc.init ttl) σ).res l = some r) : r = w.parse (j.doc t) :=
  (Gomjml.CacheConc.inv_reachable w j hinj ttl σ).wait_res hinj hw hr

/-- non-vacuity: a schedule of three goroutines that reaches a waiter's return -/
example : (runSched (init (fun t => if t = 2 then 1 else 0) (fun t => t + 100)) [0, 0, 1, 1, 0, 0, 0, 1]).pc 1 = .ret (some 100) (some 0) := by
  decide

/-- Regenerated facts: the single-flight map and the cleanup handle are written only by the functions modelled here;
    goroutines are spawned only by `startASTCacheCleanup`.  Rows: (variable, function, guard); (kind, callee, caller). -/
theorem C15_sites :
    (Gomjml.Gen.PkgVars.pkgVarWriters.filter (fun r => r.1 == "mjml.sfCalls" || r.1 == "mjml.cleanupCancel")).map (fun r => (r.1, r.2.1))
      = [("mjml.cleanupCancel", "mjml.StopASTCacheCleanup"), ("mjml.cleanupCancel", "mjml.startASTCacheCleanup"),
         ("mjml.sfCalls", "mjml.singleflightDo")] ∧
    (Gomjml.Gen.Census.census.filter (fun r => r.1 == "go")).map (fun r => r.2.2) = ["mjml.startASTCacheCleanup"] := by
  decide +kernel

end Gomjml.Props.C15
