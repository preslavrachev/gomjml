import Gomjml.Core.LayoutLeaves
/-! # C02 — output is well-formed HTML for standard (non-Outlook) clients (property theorems and one example document)

`Layout.render` is the control-flow-faithful skeleton model of body / section / wrapper / column / group / hero / raw
(tied to the implementation by skeleton correspondence on every generated document).  `Spec.StdWF` is the Spec. -/
namespace Gomjml.Props.C02
open Gomjml.Layout Gomjml.Spec

/-- **C02, the full statement: for EVERY document of the layout grammar** — any sequence of sections, wrappers of any
    configuration (full-width and background-image sections inside them, delegated backgrounds, blank raws), heroes and raw
    content: what standard clients see is strictly nested, conditional comments are delimited and never nested, no VML outside an
    Outlook conditional.  No side condition. -/
theorem C02_full (bs : List Block) : StdWF ((render bs).map Tok.toG) := (wf_spec _ (C02_C03_all bs)).1

/-- `C02_full` under a second name -/
theorem C02_combined (bs : List Block) : StdWF ((render bs).map Tok.toG) := C02_full bs

/-- the formerly failing shapes, now well formed -/
example : StdWF ((render [.section ⟨false, false, false, false, false, false, [.col ⟨false, [.text]⟩]⟩,
                          .section ⟨true, false, false, false, false, false, [.col ⟨false, [.text]⟩]⟩]).map Tok.toG) := C02_full _
example : StdWF ((render [.section ⟨false, false, false, false, false, false, []⟩,
                          .section ⟨true, true, false, false, false, false, []⟩]).map Tok.toG) := C02_full _

/-- a background-image section inside a wrapper (formerly `vml-in-std`: its VML was written outside any conditional) -/
example : StdWF ((render [.wrapper ⟨false, false, [.sec ⟨false, true, false, false, false, false, []⟩]⟩]).map Tok.toG) := C02_full _

/-! ### with the content components filled in -/
open Gomjml.LayoutLeaves Gomjml.Leaves in
/-- **C02 for documents with real content components**: any layout tree with, in every content slot, any of mj-text, mj-button,
    mj-image, mj-divider, mj-spacer, mj-table, mj-social (horizontal / vertical, any number of elements with or without link and
    text, raw content between them), mj-navbar (with or without hamburger, any number of links and raw content in any order),
    mj-accordion (any number of elements and raw content, each element with any sequence of titles, texts and raw content, icon
    left or right), mj-carousel (any number ≥ 1 of images, with or without links and thumbnails):
    what standard clients see is strictly nested, conditional blocks (Outlook-only AND not-Outlook ones) are delimited and never
    nested, no Outlook-only markup outside a conditional.  No side condition. -/
theorem C02_components (d : Doc) : StdWF d.render := (doc_spec d).1

open Gomjml.Leaves in
/-- the component half on its own: every content component, whatever its parameters and children, leaves the three checkers
    exactly where it found them -/
theorem C02_component_inert (l : LeafM) : Gomjml.Expand.Inert l.toks := leaf_inert l

open Gomjml.LayoutLeaves Gomjml.Leaves in
/-- non-vacuity: a section with a column holding a social bar (two elements with raw content between them), a hamburger navbar that
    starts with raw content, and a carousel of two images, next to a hero with an accordion (two titles in one element, raw content) — complete (a component for every slot) and rendered -/
def dEx : Doc :=
  ⟨[.section ⟨false, false, false, false, false, false, [.col ⟨false, [.slot, .text, .slot, .slot]⟩]⟩, .hero [.slot]],
   [.social false [.el ⟨true, true⟩, .raw false, .el ⟨false, true⟩], .keep, .navbar true [.raw false, .link true, .link false], .carousel true false [true],
    .accordion [.el ⟨false, [.title true, .text true, .title true]⟩, .raw false, .el ⟨true, [.text false, .raw false]⟩]]⟩
example : dEx.Complete := by unfold Gomjml.LayoutLeaves.Doc.Complete; decide
example : dEx.render.length = 354 ∧ Gomjml.Leaves.cntT dEx.render = 11 := by decide +kernel

end Gomjml.Props.C02
