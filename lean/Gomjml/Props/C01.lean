import Gomjml.Core.Merge
import Gomjml.Core.Canon
/-! # C01 — reference parity on the corpus, closed under block composition (property theorems only)

The corpus part is a finite base and is *executed* (all 207 pairs through the canonical comparison, harness `hx C01`); what
makes the property hold for every sequence of blocks is proved here.  The Model is tied to the code on every run: the composed
body equals `Merge.bodyLoop` run on the blocks' real solo outputs, and every corpus block meets `Blk.WF` (driver `refloop`). -/
namespace Gomjml.Props.C01
open Gomjml.Merge Gomjml.Canon

/-- **Lifting**: body loop = MJML merge of the solo fragments, for every sequence of well-formed blocks. -/
theorem C01_lifting (bs : List Blk) (hw : ∀ b ∈ bs, b.WF) : bodyLoop bs = merge (bs.flatMap Blk.solo) :=
  Gomjml.Merge.C01_lifting bs hw

/-- **Closed under composition**: blocks whose solo output is their reference fragment compose to the merged reference
    fragments, whatever blocks are placed next to each other and however many. -/
theorem C01_composition (bs : List Blk) (ref : Blk → List Tok) (hw : ∀ b ∈ bs, b.WF) (hs : ∀ b ∈ bs, b.solo = ref b) :
    bodyLoop bs = merge (bs.flatMap ref) := by
  rw [Gomjml.Merge.C01_lifting bs hw, List.flatMap_def, List.flatMap_def, List.map_congr_left hs]

/-- the merge leaves alone what has no adjacent `endif` / `if mso` pair -/
theorem C01_merge_stable (xs : List Tok) (h : Normal xs) : merge xs = xs := merge_normal xs h

/-- attribute order is ignored, and only the order: the canonical attribute list is a permutation of what was written … -/
theorem canon_attrs_perm (l : List Attr) : (sortAttrs l).Perm l := sortAttrs_perm l
/-- … and two ways of writing the same distinct attributes have one canonical form -/
theorem canon_attrs_order_irrelevant (l₁ l₂ : List Attr) (hp : l₁.Perm l₂) (hn : (l₁.map (·.1)).Nodup) :
    sortAttrs l₁ = sortAttrs l₂ := sortAttrs_order_irrelevant l₁ l₂ hp hn
/-- the canonical declaration list has exactly the declarations that were written -/
theorem canon_decls_perm (l : List Attr) : (normDecls l).Perm l := normDecls_perm l

/-! the two sides of `C01_lifting` evaluated on three blocks: `sec` (a section that both chains and consumes), a hero, a blank raw -/
private def sec : Blk := ⟨[.t 1], true, true, true, true, false⟩
private def hero : Blk := ⟨[.t 2, .cc, .t 3, .co, .t 4], true, true, false, false, false⟩
private def blankRaw : Blk := ⟨[], false, false, false, false, true⟩

example : bodyLoop [sec, hero, blankRaw, sec, sec] =
    [.co, .t 1, .t 2, .cc, .t 3, .co, .t 4, .t 1, .t 1, .cc] := by decide
example : merge ([sec, hero, blankRaw, sec, sec].flatMap Blk.solo) =
    [.co, .t 1, .t 2, .cc, .t 3, .co, .t 4, .t 1, .t 1, .cc] := by decide
/-- two independent declarations, either order -/
example : normDecls [("width", "1px"), ("color", "red")] = normDecls [("color", "red"), ("width", "1px")] := by decide

end Gomjml.Props.C01
