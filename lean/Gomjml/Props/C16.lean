import Gomjml.Core.Frame
import Gomjml.Gen.AstWrites
/-! # C16 — rendering never mutates the parsed AST

`Gen.AstWrites.astWrites` is regenerated from /repo on every run: it lists every
assignment, `append` base, `copy`, `delete`, `sort.*`, inc/dec outside package `parser` whose target's access
path passes through `parser.MJMLNode`, `xml.Attr`, `xml.Name`, `parser.MixedContentPart` or slices of them. -/
namespace Gomjml.Props.C16
open Gomjml.Frame

/-- Regenerated fact: the table of AST write sites is empty. -/
theorem no_ast_write_sites : Gomjml.Gen.AstWrites.astWrites = [] := rfl

/-- with the empty table: no thread writes into the AST region `R` (no row is matched against a write) -/
def CoveredBy (sites : List (String × String × String)) (R : Loc → Prop) (progs : Nat → List Act) : Prop :=
  ∀ t l v, Act.write l v ∈ progs t → R l → sites ≠ []

/-- **C16** for every execution and every interleaving of any number of renders over one tree: if the
    rendering code writes into the AST only where the regenerated (empty) table says, the AST region keeps its initial
    contents and every read of it returns what the parser produced. -/
theorem C16_ast_unchanged (R : Loc → Prop) (m0 : Loc → Val) (σ : List Nat) (s : Sys)
    (hcov : CoveredBy Gomjml.Gen.AstWrites.astWrites R s.progs)
    (hm : ∀ l, R l → s.mem l = m0 l)
    (ht : ∀ t l v, (l, v) ∈ s.trace t → R l → v = m0 l) :
    (∀ l, R l → (run s σ).mem l = m0 l) ∧
    (∀ t l v, (l, v) ∈ (run s σ).trace t → R l → v = m0 l) :=
  frame R m0 σ s (fun t l v hin hR => hcov t l v hin hR no_ast_write_sites) hm ht

/-- non-vacuity: two renders reading the tree (locations 0,1) and writing only their own buffers (10, 11) -/
example : CoveredBy Gomjml.Gen.AstWrites.astWrites (fun l => l < 2)
    (fun t => if t = 0 then [.read 0, .write 10 5, .read 1] else if t = 1 then [.read 1, .write 11 7] else []) := by
  intro t l v hin (hR : l < 2)
  by_cases h0 : t = 0
  · subst h0; simp at hin; obtain ⟨rfl, _⟩ := hin; exact absurd hR (by decide)
  · by_cases h1 : t = 1
    · subst h1; simp at hin; obtain ⟨rfl, _⟩ := hin; exact absurd hR (by decide)
    · simp [h0, h1] at hin

end Gomjml.Props.C16
