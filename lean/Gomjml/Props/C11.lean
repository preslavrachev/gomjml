import Gomjml.Core.HeadClasses
import Gomjml.Core.MapIter
import Gomjml.Core.Detect
import Gomjml.Gen.Detect
/-! # C11 — the head provides everything the body references (property theorems only) -/
namespace Gomjml.Props.C11
open Gomjml.HeadClasses

/-- every class the body uses is registered by the head pre-pass and every registered class is used: the two traversals
    yield the same list of classes for every document (sections, wrappers, groups with pixel / percentage / default widths);
    the two Models agree by construction -/
theorem C11_classes (bs : List Blk) : bs.flatMap blkHead = bs.flatMap blkBody := head_eq_body bs

/-- decoding a class name gives back the digits it was made from (the code reads no width back from a name) -/
theorem C11_width_encoded (digits : List Char) (h : ∀ ch ∈ digits, ch ≠ '-') : decode (encode digits) = digits :=
  decode_encode digits h

example : decode (encode "33.333333333333336".toList) = "33.333333333333336".toList := by decide +kernel
example : [Blk.sec [.group (.pct "40".toList) [.per "50".toList, .per "50".toList], .col (.px 150)]].flatMap blkHead
    = [.per "40".toList, .per "50".toList, .per "50".toList, .px 150] := by decide

/-- imported ⊇ referenced, deterministically: the font a stack resolves to does not depend on the map iteration order -/
theorem C11_font_lookup (l l' : List Gomjml.MapIter.FEntry) (h : l.Perm l') (nodup : (l.map Gomjml.MapIter.FEntry.name).Nodup) :
    Gomjml.MapIter.pick l = Gomjml.MapIter.pick l' := Gomjml.MapIter.pick_perm l l' h nodup

open Gomjml.Detect

/-- the search the head runs finds a component satisfying the condition iff one of the components it REACHES satisfies it -/
theorem C11_search_reaches (D : String → Bool) (p : CT → Bool) (t : CT) : search D p t = (reach D t).any p :=
  search_eq_reach D p t

/-- … and when every component that has children is of such a type, that is: iff such a component exists anywhere below the body -/
theorem C11_search_complete (D : String → Bool) (p : CT → Bool) (t : CT) (h : covered D t = true) :
    search D p t = true ↔ ∃ n ∈ desc t, p n = true := search_iff_exists D p t h

/-- component types that get children from the builders but are not descended through: their children are their own sub-parts
    (accordion title / text / raw, carousel images), whose presence implies the parent's, which IS looked at; the head is not
    part of the body -/
def subPartOwners : List String :=
  ["mjml/components.MJAccordionElementComponent", "mjml/components.MJCarouselComponent", "mjml/components.MJHeadComponent"]

/-- **Regenerated fact: the detection descends through every component type the tree builders give children to** (the
    hypothesis of `C11_search_complete` up to `subPartOwners`, whose exemption is argued above, not proved).  A container type
    unknown to the search breaks this theorem. -/
theorem C11_detection_covers_builders :
    ∀ o ∈ Gomjml.Gen.Detect.childOwners, o ∈ Gomjml.Gen.Detect.detectCases ∨ o ∈ subPartOwners := by decide +kernel

/-- Regenerated facts: which tags each detector looks for, and which detector gates which head CSS (`hasMobileCSSComponents`
    = `checkComponentForMobileCSS` on the body; button / social / text gate the default font import) -/
theorem C11_detectors :
    Gomjml.Gen.Detect.detectors =
      [("checkComponentForMobileCSS", "mj-image"),
       ("hasAccordionComponents", "mj-accordion,mj-accordion-element,mj-accordion-text,mj-accordion-title"),
       ("hasButtonComponents", "mj-button"),
       ("hasCarouselComponents", "mj-carousel,mj-carousel-image"),
       ("hasNavbarComponents", "mj-navbar,mj-navbar-link"),
       ("hasSocialComponents", "mj-social,mj-social-element"),
       ("hasTextComponentsRecursive", "mjml/components.MJButtonComponent,mjml/components.MJTextComponent")] ∧
    Gomjml.Gen.Detect.gates =
      [("hasAccordionComponents", "generateAccordionCSS"), ("hasCarouselComponents", "generateCarouselCSS"),
       ("hasMobileCSSComponents", "<style literal>"), ("hasNavbarComponents", "generateNavbarCSS")] := ⟨rfl, rfl⟩

/-- body ▸ hero ▸ accordion ▸ element ▸ title: the accordion is found with the hero among the descending types, not without -/
def tEx : CT := .node "Body" "mj-body" [.node "Hero" "mj-hero" [.node "Accordion" "mj-accordion" [.node "El" "mj-accordion-element" [.node "T" "mj-accordion-title" []]]]]
example : search (fun ty => ty == "Body" || ty == "Hero" || ty == "Accordion") (fun n => n.tag == "mj-accordion") tEx = true ∧
          search (fun ty => ty == "Body" || ty == "Accordion") (fun n => n.tag == "mj-accordion") tEx = false := by decide

end Gomjml.Props.C11
