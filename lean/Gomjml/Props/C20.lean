import Gomjml.Core.Cli
import Gomjml.Core.Cache
/-! # C20 — the CLI is a thin, faithful wrapper around the library (decision logic) -/
namespace Gomjml.Props.C20
open Gomjml.Cli

/-- success with `-o`: the output file holds exactly the library's bytes, nothing goes to standard output or standard error,
    exit 0 -/
theorem C20_success_file (html : String) : cli ⟨true, .ok html, true, true⟩ = ⟨0, "", false, some html⟩ := rfl
/-- success without `-o`: standard output is exactly the library's bytes, no file is touched, exit 0 -/
theorem C20_success_stdout (html : String) (w : Bool) : cli ⟨true, .ok html, false, w⟩ = ⟨0, html, false, none⟩ := rfl
/-- any error — unreadable input, an ordinary error, a validation error (HTML present!) — gives a non-zero exit, a message on
    standard error, nothing on standard output, and the output file is neither created nor overwritten -/
theorem C20_error (i : In) (h : i.readOk = false ∨ (∀ html, i.lib ≠ .ok html)) :
    (cli i).exit ≠ 0 ∧ (cli i).stderr = true ∧ (cli i).file = none ∧ (cli i).stdout = "" := by
  rw [cli_fail i h]; exact ⟨by decide, rfl, rfl, rfl⟩
/-- conversely: exit 0 only when the library returned HTML without any error, and then the bytes delivered (file or standard
    output) are the library's -/
theorem C20_exit0 (i : In) (h : (cli i).exit = 0) :
    ∃ html, i.lib = .ok html ∧ ((cli i).file = some html ∨ (cli i).stdout = html) := by
  rcases cli_ok_or_fail i with hf | ⟨html, hl, hc | hc⟩
  · rw [hf] at h; exact absurd h (by decide)
  · exact ⟨html, hl, .inl (by rw [hc])⟩
  · exact ⟨html, hl, .inr (by rw [hc])⟩

/-- the cache flags accept any duration: whatever `--cache-ttl` / `--cache-cleanup-interval` configure (the CLI calls the
    setters only for positive values), the ticker argument is positive — shared with C14 -/
theorem C20_any_duration (w : Gomjml.Cache.World) (ttl : Int) (ops : List Gomjml.Cache.Op) :
    0 < Gomjml.Cache.tickerArg (Gomjml.Cache.runOps w (Gomjml.Cache.init ttl) ops).1 := Gomjml.Cache.ticker_positive _

/-- non-vacuity: a validation error is an error case -/
example : (cli ⟨true, .validation "<html>", true, true⟩).file = none := rfl

end Gomjml.Props.C20
