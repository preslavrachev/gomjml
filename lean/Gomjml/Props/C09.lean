import Gomjml.Core.Resolve
import Gomjml.Core.Store
import Gomjml.Core.ClassMerge
import Gomjml.Gen.AttrSites
import Gomjml.Expect.AttrSites
/-! # C09 — attribute values resolve by MJML precedence, independent of source -/
namespace Gomjml.Props.C09
open Gomjml.Resolve

/-- the full resolvers (`GetAttributeWithDefault`, `GetAttributeFast`) return the highest-priority non-empty value among
    own ≻ mj-class (later class first) ≻ tag default ≻ mj-all ≻ built-in default -/
theorem C09_full_is_winner (s : Sources) : accFull s = winner s := by
  simp only [accFull, winner, first_cons, List.find?_nil, Option.getD_none, self_or_empty]

/-- hence what they return depends on the winning value only -/
theorem C09_source_independent (s s' : Sources) (h : winner s = winner s') : accFull s = accFull s' := by
  rw [C09_full_is_winner, C09_full_is_winner, h]

/-- … false for the reduced accessors: same winner, different result -/
example : winner ⟨"", [], some "red", none, ""⟩ = winner ⟨"red", [], none, none, ""⟩ ∧
          accNoGlobal ⟨"", [], some "red", none, ""⟩ ≠ accNoGlobal ⟨"red", [], none, none, ""⟩ := by decide

/-- the reduced accessors coincide with the Spec when the sources they skip are silent -/
theorem C09_noglobal_partial (s : Sources) (h : globalValue s = "" ∧ s.builtin = "") : accNoGlobal s = winner s := by
  simp only [accNoGlobal, winner, first_cons, List.find?_nil, Option.getD_none, h.1, h.2, ne_eq, not_true, if_false,
    self_or_empty]
theorem C09_raw_partial (s : Sources) (h : classValue s.classes = "" ∧ globalValue s = "" ∧ s.builtin = "") :
    accRaw s = winner s := by
  simp only [accRaw, winner, first_cons, List.find?_nil, Option.getD_none, h.1, h.2.1, h.2.2, ne_eq, not_true, if_false,
    self_or_empty]

/-- non-vacuity: a later class wins, own wins over everything, mj-all comes before the built-in -/
example : winner ⟨"", [some "a", some "b", none], some "t", some "g", "d"⟩ = "b" ∧
          winner ⟨"o", [some "a"], some "t", some "g", "d"⟩ = "o" ∧
          winner ⟨"", [], none, some "g", "d"⟩ = "g" ∧ winner ⟨"", [none], none, none, "d"⟩ = "d" := by decide

/-- a written-attribute read plus the caller's own fall-back to the built-in default is the full resolution -/
theorem C09_written_reads (s : Sources) : (if accWritten s ≠ "" then accWritten s else s.builtin) = winner s := by
  rw [← C09_full_is_winner]
  unfold accWritten accFull
  rw [first_ite, first_ite]

/-- **every attribute read in the code base, partial**: each site uses a resolver that consults everything an author can write
    (`full`: with the built-in default; `written`: the caller supplies the default) or is the one recorded raw read: `lang` of the
    root element <mjml>, which is not a body component and which mj-attributes cannot address.  The kind of each accessor is read off its
    own body by the extractor; a new reduced read breaks this theorem.  Rows: (function, accessor, kind, attribute). -/
theorem C09_sites :
    ∀ s ∈ Gomjml.Gen.AttrSites.attrSites, s.2.2.1 = "full" ∨ s.2.2.1 = "written" ∨
      (s.1, s.2.2.1, s.2.2.2) ∈ Gomjml.Expect.AttrSites.knownNonFull := by
  decide +kernel

/-- **the document's attribute store is "the last definition wins, attribute by attribute"**: whatever the head defines — in
    however many mj-attributes blocks, in whatever order, the same tag / class / mj-all any number of times — a lookup returns
    the last definition of that attribute in document order (for the tag if it has one, else for mj-all; for a class: the
    definitions of all mj-class entries of that name, the `name` attribute itself aside) -/
theorem C09_store_is_last_definition (blocks : List (List Gomjml.Store.Entry)) (t c a : String) :
    Gomjml.Store.globalAttr (Gomjml.Store.build blocks) t a =
      ((Gomjml.Store.lastDef (Gomjml.Store.tagDefs t blocks.flatten) a).orElse
        (fun _ => Gomjml.Store.lastDef (Gomjml.Store.allDefs blocks.flatten) a)).getD "" ∧
    Gomjml.Store.classAttr (Gomjml.Store.build blocks) c a =
      (Gomjml.Store.lastDef (Gomjml.Store.classDefs c blocks.flatten) a).getD "" :=
  Gomjml.Store.build_spec blocks t c a

/-- non-vacuity: two blocks, the tag default of the second overrides the colour of the first and keeps its font size -/
example : Gomjml.Store.globalAttr (Gomjml.Store.build [[.tag "mj-text" [("color", "red"), ("font-size", "9px")], .all [("color", "green")]],
      [.tag "mj-text" [("color", "blue")]]]) "mj-text" "color" = "blue" ∧
    Gomjml.Store.globalAttr (Gomjml.Store.build [[.tag "mj-text" [("color", "red"), ("font-size", "9px")], .all [("color", "green")]],
      [.tag "mj-text" [("color", "blue")]]]) "mj-text" "font-size" = "9px" ∧
    Gomjml.Store.globalAttr (Gomjml.Store.build [[.tag "mj-text" [("color", "red"), ("font-size", "9px")], .all [("color", "green")]],
      [.tag "mj-text" [("color", "blue")]]]) "mj-image" "color" = "green" := by decide

/-- css-class resolves by the same precedence (its mj-class values joined instead of overridden), and reaches an element from
    mj-attributes — the tag default, else mj-all — when nothing nearer supplies it -/
theorem C09_css_class (s : Gomjml.Resolve.Sources) :
    Gomjml.Resolve.accCssClass s = Gomjml.Resolve.cssWinner s ∧
    (s.own = "" → s.classes = [] → Gomjml.Resolve.accCssClass s = Gomjml.Resolve.globalValue s) :=
  ⟨by simp only [accCssClass, cssWinner, first_cons, List.find?_nil, Option.getD_none, self_or_empty],
    fun h1 h2 => by simp [accCssClass, h1, h2, cssClassValue]⟩

/-- **no read past the resolvers**: the only functions that look into a component's own attribute map are the four resolvers;
    everything else that touches the map is one of the three recorded width hand-downs.  A helper that reads `Attrs["x"]`
    directly sees the element's own attribute only — the defect behind 6bdfa39, where `GetCSSClass` did exactly that and
    css-class from mj-attributes was accepted and dropped — and breaks this theorem. -/
theorem C09_no_read_past_resolvers :
    ∀ s ∈ Gomjml.Gen.AttrSites.ownMapSites,
      (s.2.1 = "read" ∧ s.1 ∈ Gomjml.Expect.AttrSites.resolverBodies) ∨
      (s.2.1 = "write" ∧ (s.1, s.2.2) ∈ Gomjml.Expect.AttrSites.ownMapWrites) := by
  decide +kernel

/-- **the class level of the resolution Spec is what `NewBaseComponent` computes**: for every list of class names and every
    table of definitions, the merged value of an attribute (other than css-class) is what the last listed class that defines
    it says — `Resolve.classValue` over "per listed class, the value it defines", the input `C09_full_is_winner` takes as
    given.  (`norm` = `normalizeAttributeValue`, applied to the winning value.) -/
theorem C09_class_level_is_the_merge (norm : String → String → String) (a : String) (ha : a ≠ "css-class")
    (cas : List Gomjml.ClassMerge.ClassDefs) :
    (Gomjml.Store.get (Gomjml.ClassMerge.merge norm cas).1 a).getD "" =
      classValue (cas.map (Gomjml.ClassMerge.says norm a)) :=
  Gomjml.ClassMerge.merge_get norm a ha cas

/-- … and for css-class: every listed class that defines one contributes it, in list order, joined by a blank —
    `Resolve.cssClassValue` (a class's definitions are a Go map: at most one css-class each) -/
theorem C09_css_class_level_is_the_merge (norm : String → String → String) (cas : List Gomjml.ClassMerge.ClassDefs)
    (h1 : ∀ ca ∈ cas, ∀ as, ca = some as → (as.filter Gomjml.ClassMerge.isCss).length ≤ 1) :
    Gomjml.ClassMerge.cssJoined (Gomjml.ClassMerge.merge norm cas).2 =
      cssClassValue (cas.map (fun ca => ca.bind (fun as => ((as.filter Gomjml.ClassMerge.isCss).head?).map (·.2)))) :=
  Gomjml.ClassMerge.merge_css norm cas h1

/-- non-vacuity: `mj-class="a zz b"`, a: color=red css-class=x, zz undefined, b: color="" css-class=y -/
example : (Gomjml.Store.get (Gomjml.ClassMerge.merge (fun _ v => v)
      [some [("color", "red"), ("css-class", "x")], none, some [("color", ""), ("css-class", "y")]]).1 "color") = some "" ∧
    Gomjml.ClassMerge.cssJoined (Gomjml.ClassMerge.merge (fun _ v => v)
      [some [("color", "red"), ("css-class", "x")], none, some [("color", ""), ("css-class", "y")]]).2 = "x y" := by decide

end Gomjml.Props.C09
