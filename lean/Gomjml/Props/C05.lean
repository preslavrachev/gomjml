import Gomjml.Core.MapIter
import Gomjml.Gen.MapRanges
import Gomjml.Gen.Census
import Gomjml.Gen.Misc
import Gomjml.Core.SmallPure
/-! # C05 — compilation is deterministic (property theorems only)

Go's `range` over a map is a fold over an arbitrary permutation of the entries.  The map ranges of the non-test code
are in the regenerated table `Gen.MapRanges.mapRanges`. -/
namespace Gomjml.Props.C05
open Gomjml.MapIter

/-- patterns whose result is independent of the iteration order, each with its lemma -/
def invariantPatterns : List String :=
  ["keyed-insert",                    -- keyed_insert_perm
   "collect-sorted",                  -- collect_sorted_perm
   "const-key-append+keyed-insert",   -- const_key_append_perm + keyed_insert_perm
   "const-key-append",                -- const_key_append_perm
   "empty"]                           -- nothing to prove

/-- sites of pattern `select` whose body has been modelled and proved order independent (`pick_perm`) -/
def selectSites : List (String × String) := [("mjml/fonts.GetGoogleFontURL", "select")]

/-- **every map range in the code base has an order-independent pattern**; rows: (function, n-th range in it, map ranged
    over, pattern) -/
theorem C05_map_range_sites :
    ∀ s ∈ Gomjml.Gen.MapRanges.mapRanges, s.2.2.2 ∈ invariantPatterns ∨ (s.1, s.2.2.2) ∈ selectSites := by decide +kernel

theorem C05_keyed_insert {V W} (g : Nat → V → W) (l l' : List (Nat × V)) (h : l.Perm l')
    (nodup : (l.map Prod.fst).Nodup) (m0 : Nat → Option W) :
    l.foldl (fun m e => upd m e.1 (g e.1 e.2)) m0 = l'.foldl (fun m e => upd m e.1 (g e.1 e.2)) m0 :=
  keyed_insert_perm g l l' h nodup m0
theorem C05_collect_sorted (l l' : List Nat) (h : l.Perm l') :
    l.mergeSort (fun a b => decide (a ≤ b)) = l'.mergeSort (fun a b => decide (a ≤ b)) := collect_sorted_perm l l' h
theorem C05_const_key_append {V} (c : Nat) (l l' : List (Nat × V)) (h : l.Perm l') (nodup : (l.map Prod.fst).Nodup) :
    l.filter (fun e => e.1 == c) = l'.filter (fun e => e.1 == c) := const_key_append_perm c l l' h nodup
/-- the Google-font lookup returns the same URL for every iteration order of the mapping -/
theorem C05_font_lookup (l l' : List FEntry) (h : l.Perm l') (nodup : (l.map FEntry.name).Nodup) : pick l = pick l' :=
  pick_perm l l' h nodup

/-- the hypotheses of `C05_font_lookup` can be met: a three-entry mapping and one of its permutations -/
example : [(⟨1, some 0, 6, 100⟩ : FEntry), ⟨2, some 8, 9, 200⟩, ⟨3, none, 4, 300⟩].Perm
          [⟨3, none, 4, 300⟩, ⟨2, some 8, 9, 200⟩, ⟨1, some 0, 6, 100⟩] ∧
          ([(⟨1, some 0, 6, 100⟩ : FEntry), ⟨2, some 8, 9, 200⟩, ⟨3, none, 4, 300⟩].map FEntry.name).Nodup := by
  constructor
  · exact (List.Perm.swap _ _ _).trans ((List.Perm.cons _ (List.Perm.swap _ _ _)).trans (List.Perm.swap _ _ _))
  · decide

/-- the other sources of nondeterminism: every call into math/rand, crypto/rand, maphash, time and the environment made by
    non-test code is one of these (a subset check: removing a call does not break it); rows: (kind, callee, caller) -/
def allowedCalls : List (String × String) :=
  [("hash/maphash.MakeSeed", "mjml.hashTemplate"), ("hash/maphash.SetSeed", "mjml.hashTemplate"),
   ("hash/maphash.Sum64", "mjml.hashTemplate"), ("hash/maphash.WriteString", "mjml.hashTemplate"),
   ("math/rand.Intn", "mjml/components.genRandomHexString"),
   ("os.Exit", "cmd/gomjml/command.Execute"), ("os.Exit", "cmd/gomjml/command.NewCompileCommand"),
   ("os.Exit", "cmd/gomjml/command.NewTestCommand"),
   ("time.After", "mjml.startASTCacheCleanup"), ("time.NewTicker", "mjml.startASTCacheCleanup"),
   ("time.Now", "mjml.RenderWithAST"), ("time.Now", "mjml.parseAST"), ("time.Now", "mjml.startASTCacheCleanup"),
   ("time.Since", "mjml.RenderWithAST")]
theorem C05_nondeterminism_census :
    ∀ r ∈ Gomjml.Gen.Census.census, r.1 = "call" → (r.2.1, r.2.2) ∈ allowedCalls := by decide +kernel

/-- the random identifier has no consumer besides the two memoising ones: the carousel id and the navbar checkbox id -/
theorem C05_random_id_callers :
    ∀ f ∈ Gomjml.Gen.Misc.randomIdCallers,
      f ∈ ["mjml/components.(*MJCarouselComponent).generateCarouselID", "mjml/components.(*MJNavbarComponent).generateCheckboxID"] := by
  decide +kernel

/-- **the font imports of a document** (`fonts.ConvertFontFamiliesToURLs`, whose `seen` map is only ever asked for
    membership): for every list of families in order of use and whatever the lookup of one family answers, every address is
    imported once, every family with an address is served, and the addresses stand in the order of use (a sublist of the
    addresses looked up); the import block (`fontTags`) is a function of that list. -/
theorem C05_font_imports (lookup : List Gomjml.Amp.B → List Gomjml.Amp.B) (fams : List (List Gomjml.Amp.B)) :
    (Gomjml.SmallPure.convert lookup fams).Nodup ∧
    (∀ u, u ∈ Gomjml.SmallPure.convert lookup fams ↔ u ≠ [] ∧ ∃ f ∈ fams, lookup f = u) ∧
    (Gomjml.SmallPure.convert lookup fams).Sublist (fams.map lookup) :=
  Gomjml.SmallPure.convert_spec lookup fams

/-- … and the list is stable: de-duplicating it again changes nothing -/
theorem C05_font_imports_stable (lookup : List Gomjml.Amp.B → List Gomjml.Amp.B) (fams : List (List Gomjml.Amp.B)) :
    Gomjml.SmallPure.dedupFirst (Gomjml.SmallPure.convert lookup fams) = Gomjml.SmallPure.convert lookup fams :=
  Gomjml.SmallPure.dedupFirst_idem _

/-- two families with the same address and one without -/
example : Gomjml.SmallPure.convert (fun f => if f = [1] then [] else [7]) [[2], [1], [3]] = [[7]] := by decide

/-- **`styles.NormalizeColor`** is idempotent and keeps the author's digits: `#abc` and `#aabbcc` name one colour however
    often a value passes through it. -/
theorem C05_normalize_color (v : List Gomjml.Amp.B) :
    Gomjml.SmallPure.normalizeColor (Gomjml.SmallPure.normalizeColor v) = Gomjml.SmallPure.normalizeColor v ∧
    ∀ x ∈ Gomjml.SmallPure.normalizeColor v, x ∈ v :=
  ⟨Gomjml.SmallPure.normalizeColor_idem v, Gomjml.SmallPure.normalizeColor_digits v⟩

end Gomjml.Props.C05
