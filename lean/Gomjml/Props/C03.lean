import Gomjml.Core.LayoutLeaves
/-! # C03 — output is well-formed for Outlook: conditional content balanced (property theorems only) -/
namespace Gomjml.Props.C03
open Gomjml.Layout Gomjml.Spec

/-- **C03, the full statement: for EVERY document of the layout grammar** — any sequence of sections (full-width, background
    image, chaining or not), wrappers of every configuration (full-width and background-image sections inside them, delegated
    backgrounds, raw content between them, only blank raws), heroes and raw content: what Outlook sees (conditional content
    spliced in) is strictly nested — every table, row, cell and VML shape opened inside a conditional is closed by a later
    conditional at the same depth, none is closed twice.  No side condition. -/
theorem C03_full (bs : List Block) : MsoWF ((render bs).map Tok.toG) :=
  (wf_spec _ (C02_C03_all bs)).2.1

/-- the Outlook part of a wrapper restores both stacks, whatever the children: the loop leaves open exactly the depth it
    reports (`Layout.wKids_moves`), and `RenderMSOWrapperClose` closes that -/
theorem C03_wrapper_hand_over (w : Wrapper) : Neutral w.mid := mid_neutral w

/-- non-vacuity: the shapes that were unbalanced before the wrapper kept track of the open depth — a wrapper whose only child
    is a blank raw … -/
example : MsoWF ((render [.wrapper ⟨false, false, [.raw true]⟩]).map Tok.toG) := C03_full _
/-- … a full-width section with a background colour inside a wrapper … -/
example : MsoWF ((render [.wrapper ⟨false, false, [.sec ⟨true, false, false, false, true, false, []⟩]⟩]).map Tok.toG) := C03_full _
/-- … a full-width section inside a coloured wrapper … -/
example : MsoWF ((render [.wrapper ⟨false, true, [.sec ⟨true, false, false, false, false, false, []⟩]⟩]).map Tok.toG) := C03_full _
/-- … mixes of sections that bring their own Outlook table with sections that do not, raw content between them -/
example : MsoWF ((render [.wrapper ⟨false, false, [.sec ⟨false, false, false, false, false, false, []⟩, .raw false,
                                                   .sec ⟨true, true, false, false, false, false, []⟩, .raw true,
                                                   .sec ⟨true, false, false, false, true, false, [.col ⟨false, [.text]⟩]⟩]⟩]).map Tok.toG) := C03_full _

open Gomjml.LayoutLeaves in
/-- **C03 for documents with real content components** (mj-divider's Outlook table, mj-social's and mj-navbar's Outlook cells
    — one per element, opened by the first and handed on by a separator conditional —, mj-carousel's Outlook fall-back image, the
    not-Outlook blocks of navbar / accordion / carousel skipped): what Outlook sees is strictly nested, for every layout tree,
    every component, all parameter values and any number of children.  No side condition. -/
theorem C03_components (d : Doc) : MsoWF d.render := (doc_spec d).2.1

-- instances: Outlook follows tags in mode 1 (`kept` is the identity); the rest computes
open Gomjml.Leaves Gomjml.Expand in
/-- horizontal social bar: the loop over ANY children (elements, raw content) leaves exactly the open cell open -/
theorem C03_social_loop (kids : List SocChild) (rem : Nat) : ∀ st, runE msoStep ⟨0, "td" :: st⟩ (socLoop rem kids) = .ok ⟨0, "td" :: st⟩ :=
  socLoop_moves mso_checks ["td"] kids rem fun _ => cond_moves mso_checks ["td"] ["td"] []

open Gomjml.Leaves Gomjml.Expand in
/-- the same for the links of a navbar behind the first -/
theorem C03_navbar_loop (kids : List NavChild) : ∀ st, runE msoStep ⟨0, "td" :: st⟩ (navLoop false false kids) = .ok ⟨0, "td" :: st⟩ :=
  navLoop_moves mso_checks kids false

open Gomjml.Leaves Gomjml.Expand in
/-- … and in front of the first link, the opening conditional closed: a cell is open afterwards exactly when there was a link -/
theorem C03_navbar_first (kids : List NavChild) :
    ∀ st, runE msoStep ⟨0, st⟩ (navLoop false true kids) = .ok ⟨0, (if kids.any NavChild.isLink then ["td"] else []) ++ st⟩ :=
  navLoop_moves mso_checks kids true

end Gomjml.Props.C03
