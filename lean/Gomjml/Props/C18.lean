import Gomjml.Core.Tree
import Gomjml.Core.Cdata
/-! # C18 — the parser is a faithful, conservative extension of an XML parser (property theorems only) -/
namespace Gomjml.Props.C18
open Gomjml.Tree Gomjml.Passes Gomjml.Amp

/-- the tree builder adds and loses nothing: whatever `parseNode` accepts is exactly the serialisation of the tree it
    returns — element names, attribute lists, child order and the interleaving of text and child elements -/
theorem C18_tree_sound (ts : List XTok) (n : Node) (hc : noComment ts = true) (h : parseDoc ts = some n) :
    ∃ rest, ts = n.toks ++ rest := parseDoc_sound ts n hc h

/-- … and conversely nothing is added: the serialisation of any tree is read back as exactly that tree (so the builder is a
    bijection between comment-free well-nested token streams and trees) -/
theorem C18_tree_complete (n : Node) (rest : List XTok) : parseDoc (n.toks ++ rest) = some n := parseDoc_complete n rest

/-- strict documents pass the entity pre-pass unchanged (no `&` at all: nothing to rewrite) … -/
theorem C18_entities_identity (s : List B) (h : ∀ b ∈ s, b ≠ amp) : entities s = s := entities_noamp s h
/-- … the ampersand pass rewrites nothing in a text without quotes … -/
theorem C18_amp_outside_quotes (E : Ent) (s : List B) (inTag : Bool) (h : ∀ b ∈ s, b ≠ dq ∧ b ≠ sq) : esc E inTag 0 0 0 s = s :=
  esc_noquote E s inTag 0 0 h
/-- … and nothing at all without an ampersand -/
theorem C18_amp_identity (E : Ent) (s : List B) (inTag : Bool) (q : B) (h : ∀ b ∈ s, b ≠ amp) : esc E inTag q 0 0 s = s :=
  esc_noamp E s inTag q 0 0 h

/-- **comments and CDATA sections are not markup** (plain XML): outside a quoted value, `<!-- … -->` and `<![CDATA[ … ]]>` pass
    the ampersand pre-pass exactly as written — whatever quotes, ampersands or angle brackets their text contains — and the
    scanner goes on behind them in the state it was in (so a quote inside them opens no attribute value).  False of the code
    before the repair: `<!-- 5" -->` made a later bare `&` in an attribute value a parse error -/
theorem C18_non_markup_verbatim (E : Ent) (inTag : Bool) (body rest : List B) :
    (endsOnlyAt cmClose body →
      esc E inTag 0 0 0 (lt :: cmOpen ++ body ++ cmClose ++ rest) = lt :: cmOpen ++ body ++ cmClose ++ esc E inTag 0 0 0 rest) ∧
    (endsOnlyAt cdClose body →
      esc E inTag 0 0 0 (lt :: cdOpen ++ body ++ cdClose ++ rest) = lt :: cdOpen ++ body ++ cdClose ++ esc E inTag 0 0 0 rest) :=
  ⟨esc_comment E inTag body rest, esc_cdata E inTag body rest⟩

/-- non-vacuity: the body ` 5" & ` ends only at its terminator, for both kinds of block -/
example : endsOnlyAt cmClose [32, 53, 34, 32, 38, 32] ∧ endsOnlyAt cdClose [32, 53, 34, 32, 38, 32] :=
  ⟨endsOnlyAt_of_all (by decide), endsOnlyAt_of_all (by decide)⟩

/-- **a bare ampersand in an attribute value parses like `&amp;`**: inside a quoted attribute value, at a place where no
    entity follows, the pre-pass writes the same bytes for `&…` as for `&amp;…` (and leaves `&amp;` as it is) — for the real
    entity table (regenerated), either kind of quote, whatever follows -/
theorem C18_bare_amp_like_escaped (inTag : Bool) (q : B) (hq : q = dq ∨ q = sq) (rest : List B)
    (h : entityAhead entTable rest = false) :
    esc entTable inTag q 0 0 (amp :: rest) = esc entTable inTag q 0 0 (ampEsc ++ rest) ∧
    esc entTable inTag q 0 0 (ampEsc ++ rest) = ampEsc ++ esc entTable inTag q 0 0 rest :=
  ⟨esc_bare_amp entTable (by decide) inTag q hq rest h, esc_amp_entity entTable (by decide) inTag q hq rest⟩

/-- non-vacuity: `href="a?x=1&y=2"` and `href="a?x=1&amp;y=2"` come out of the pre-pass as the same bytes -/
example : escapeAmp [60, 97, 32, 104, 114, 101, 102, 61, 34, 97, 63, 120, 61, 49, 38, 121, 61, 50, 34, 62] = escapeAmp [60, 97, 32, 104, 114, 101, 102, 61, 34, 97, 63, 120, 61, 49, 38, 97, 109, 112, 59, 121, 61, 50, 34, 62] := by decide

/-- **HTML-only named entities parse like their characters**: each replacement step, at an occurrence of its entity, writes
    the replacement and continues behind it … -/
theorem C18_named_entity_replaced (old new rest : List B) (h : old.head? = some amp) :
    replaceAllM old new (old ++ rest) = new ++ replaceAllM old new rest := replaceAllM_prefix old new rest h

/-- … while inside a comment or a CDATA section the same letters are character data and stay as written (plain XML): the
    replacement steps copy such a block whole.  False of the code before the repair: `<![CDATA[&copy;]]>` was read as `©` -/
theorem C18_entities_not_in_non_markup (old new s : List B) (ho : old ≠ []) (hk : 0 < nonMarkupLen s) :
    replaceAllM old new s = s.take (nonMarkupLen s) ++ replaceAllM old new (s.drop (nonMarkupLen s)) :=
  replaceAllM_block old new s ho hk

/-- non-vacuity: `<![CDATA[&copy;]]>x` starts with a block of 18 bytes; `<!-->` is an unterminated comment -/
example : nonMarkupLen [60, 33, 91, 67, 68, 65, 84, 65, 91, 38, 99, 111, 112, 121, 59, 93, 93, 62, 120] = 18 ∧
    nonMarkupLen [60, 33, 45, 45, 62] = 5 ∧ nonMarkupLen [60, 98, 62] = 0 := by decide

/-- … and (regenerated table) the replacements are exactly the UTF-8 bytes of the characters the entities name: © (C2 A9), ® (C2 AE),
    ™ (E2 84 A2), the no-break space (C2 A0, also for its two numeric spellings), – — … (E2 80 93 / 94 / A6); none contains a byte that means anything to XML -/
theorem C18_named_entities_are_their_characters :
    Gomjml.Gen.Parser.entityStepsB.map (fun st => st.2) =
      [[194, 169], [194, 174], [226, 132, 162], [194, 160], [194, 160], [194, 160], [226, 128, 147], [226, 128, 148], [226, 128, 166]] ∧
    ∀ st ∈ Gomjml.Gen.Parser.entityStepsB, ∀ b ∈ st.2, b ≠ amp ∧ b ≠ lt ∧ b ≠ gt := by decide

/-- the CDATA wrapping of one piece (`cdataWrap'`; the pass: `C04_text_content_delivered`) round-trips every byte string,
    `]]>` included -/
theorem C18_cdata_roundtrip (inner : List B) : cdataDecode (cdataWrap' inner) = some inner := cdata_roundtrip inner

/-- blank lines / indentation before the root are ignored -/
theorem C18_strip_whitespace (p root : List B) (hp : ∀ b ∈ p, isWs b = true) (hr : startsCI mjmlNeedle root = true) :
    strip (p ++ root) = root := strip_prolog p root (prolog_of_ws p hp) hr

/-- **the whole prolog is ignored**: any sequence of white space and comments in front of the root — whatever the comments
    contain (quotes, angle brackets, the text `<mjml`, bodies beginning with `>` or `->`), as long as each ends at its own
    `-->` — is removed and the document starts at the root element -/
theorem C18_prolog_ignored (p root : List B) (hp : Prolog p) (hr : startsCI mjmlNeedle root = true) :
    strip (p ++ root) = root := strip_prolog p root hp hr

/-- non-vacuity: `<!--<mjml>-->` followed by a newline is a prolog (the shape that made the parser fail before 51f397d) -/
example : Prolog ([60, 33, 45, 45] ++ [60, 109, 106, 109, 108, 62] ++ [45, 45, 62] ++ ([10] ++ [])) :=
  .comment [60, 109, 106, 109, 108, 62] _ (closesAtEnd_of_B _ (by decide)) (.ws 10 [] (by decide) .nil)

/-- Regenerated fact: the entity pre-pass consists of `escapeAttributeAmpersands` and `replaceInMarkup` steps whose
    search strings all start with `&` and none of which is one of XML's own escapes (&lt; &gt; &quot; &apos; &amp;) — those are
    decoded exactly once, by the XML layer -/
theorem C18_xml_escapes_left_alone :
    Gomjml.Gen.Parser.entityStepsPure = true ∧
    ∀ st ∈ Gomjml.Gen.Parser.entityStepsB,
      st.1.head? = some amp ∧ st.1 ∉ [[38, 108, 116, 59], [38, 103, 116, 59], [38, 113, 117, 111, 116, 59], [38, 97, 112, 111, 115, 59], [38, 97, 109, 112, 59]] := by
  decide

/-- non-vacuity for the tree theorem: text, a child with an attribute, text -/
example : (parseDoc [.start "a" [("x", "1")], .chars "hi", .start "b" [], .stop "b", .chars "z", .stop "a"]).map Node.toks
    = some [.start "a" [("x", "1")], .chars "hi", .start "b" [], .stop "b", .chars "z", .stop "a"] := by decide

end Gomjml.Props.C18
