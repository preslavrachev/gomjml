import Gomjml.Core.Cache
import Gomjml.Core.CacheConc
import Gomjml.Gen.Misc
/-! # C13 — the AST cache is transparent

Models and lemmas: `Core/Cache.lean`, `Core/CacheConc.lean`; regenerated facts about the source at the end. -/
namespace Gomjml.Props.C13
open Gomjml.Cache

/-- **C13, full history form.** From process start, for every finite history of cached / uncached compilations,
    time advances, cleanup sweeps, stop/restart and configuration calls — each compilation with its own render options
    (debug tags …) — every compilation returns exactly what the stateless compiler returns for that document and those
    options — provided the 64-bit template hash is injective (on all documents, not only those used). -/
theorem C13_transparent_from_start (w : World) (hinj : ∀ d d', w.hash d = w.hash d' → d = d') (ttl : Int)
    (ops : List Op) : (runOps w (init ttl) ops).2 = expected w ops :=
  C13_transparent w hinj ops (init ttl) (inv_init w ttl)

/-- the same from any state satisfying the invariant (which every reachable state does) -/
theorem C13_transparent_inv (w : World) (hinj : ∀ d d', w.hash d = w.hash d' → d = d') (ops : List Op) (s : CS)
    (h : CInv w s) : (runOps w s ops).2 = expected w ops := C13_transparent w hinj ops s h

/-- a document that fails to parse is never cached -/
theorem C13_failed_parse_not_cached (w : World) (s : CS) (d : Doc) (o : Opt) (er : Err) (hp : w.parse d = .error er)
    (hs : s.store (w.hash d) = none) : (step w s (.render d true o)).1.store (w.hash d) = none := by
  rw [step_absent w o hs, miss_fst]
  simp only [hp, arm_store, hs]

/-- every stored entry is the successful parse of a document with that key (so nothing unparsable is ever stored) -/
theorem C13_store_sound (w : World) (ttl : Int) (ops : List Op) (k : CKey) (e : Entry)
    (h : (runOps w (init ttl) ops).1.store k = some e) : ∃ d, w.hash d = k ∧ w.parse d = .ok e.ast :=
  (inv_reachable w ttl ops).sound k e h

/-- non-vacuity: an injective world and a history with a miss, a hit, an expiry and a sweep -/
def wEx : World := { parse := fun d => if d = 2 then .error 7 else .ok (d + 10), rend := fun a o => a * 2 + 1000 * o, hash := fun d => d }
example : (∀ d d', wEx.hash d = wEx.hash d' → d = d') := by intro d d' h; exact h
example : (runOps wEx (init 100) [.render 0 true 0, .render 0 true 0, .render 2 true 0, .advance 100, .render 0 true 0, .tick, .stop,
                                   .render 1 true 0]).2
    = [some (.ok 20), some (.ok 20), some (.error 7), none, some (.ok 20), none, none, some (.ok 22)] := by decide
/-- … and with the options changing from one compilation to the next over one cached tree (debug tags on, off, uncached):
    each compilation gets the output for ITS options -/
example : (runOps wEx (init 100) [.render 0 true 1, .render 0 true 0, .render 0 false 1, .render 0 true 1]).2
    = [some (.ok 1020), some (.ok 20), some (.ok 1020), some (.ok 1020)] := by decide

/-- **The full statement (no injectivity hypothesis) is false of the code**: the cache compares nothing but the hash.
    Two documents with one key: the second cached compilation returns the first document's HTML.
    Recorded as finding C13-F1 (replayed on the implementation through the `VerifHash` hook). -/
def wColl : World := { parse := fun d => .ok d, rend := fun a _ => a, hash := fun _ => 0 }
example : (runOps wColl (init 100) [.render 0 true 0, .render 1 true 0]).2 ≠ expected wColl [.render 0 true 0, .render 1 true 0] := by
  decide

/-- **C13 for concurrent compilations, every schedule**: any number of compilations in flight — cached and uncached, any
    documents and options — interleaved step by step (`Load`, expiry test, `Delete`, joining the single-flight, parsing, `Store`,
    hand-over) with each other, with time passing, and with an environment that may delete any entry at any moment (the cleanup
    goroutine whatever it does, running, stopped or restarted): a compilation that has returned has returned what the stateless
    compiler returns for its document and options.  (Injective keys.) -/
theorem C13_concurrent (w : World) (j : Gomjml.CacheConc.Job) (hinj : ∀ d d', w.hash d = w.hash d' → d = d') (ttl : Int)
    (σ : List Gomjml.CacheConc.Ev) (t : Nat) (o : Except Err Html)
    (h : (Gomjml.CacheConc.run w j (Gomjml.CacheConc.init ttl) σ).pc t = .done o) : o = spec w (j.doc t) (j.opt t) :=
  (Gomjml.CacheConc.inv_reachable w j hinj ttl σ).done_spec t o h

/-- at every moment of every schedule every stored tree is the parse of a document with that key -/
theorem C13_concurrent_store_sound (w : World) (j : Gomjml.CacheConc.Job) (hinj : ∀ d d', w.hash d = w.hash d' → d = d') (ttl : Int)
    (σ : List Gomjml.CacheConc.Ev) (k : CKey) (e : Entry) (h : (Gomjml.CacheConc.run w j (Gomjml.CacheConc.init ttl) σ).store k = some e) :
    ∃ d, w.hash d = k ∧ w.parse d = .ok e.ast := (Gomjml.CacheConc.inv_reachable w j hinj ttl σ).store_sound k e h

/-- non-vacuity: three compilations of one document (one with debug tags), interleaved so that the first becomes the leader, the
    second waits for it, an eviction happens in between, and the third arrives after expiry: all three return their own output -/
def jEx : Gomjml.CacheConc.Job := { doc := fun _ => 0, opt := fun t => if t = 1 then 1 else 0, cached := fun _ => true }
def sEx : Gomjml.CacheConc.St :=
  Gomjml.CacheConc.run wEx jEx (Gomjml.CacheConc.init 100)
    [.thread 0, .thread 0, .thread 0, .thread 1, .thread 1, .thread 1, .thread 0, .thread 0, .evict 0, .thread 0, .thread 1,
     .thread 2, .thread 2, .thread 2, .thread 2, .thread 2, .thread 2]
example : (sEx.pc 0).doneOk = some 20 ∧ (sEx.pc 1).doneOk = some 1020 ∧ (sEx.pc 2).doneOk = some 20 := by decide

/-- Regenerated fact: the cache map is stored to at exactly one site, inside `parseAST` (after a successful parse). -/
theorem C13_store_sites :
    Gomjml.Gen.Misc.syncMapOps.filter (fun r => r.2.2 == "Store" || r.2.2 == "Swap" || r.2.2 == "LoadOrStore" || r.2.2 == "CompareAndSwap")
      = [("mjml.parseAST", "astCache", "Store")] := by decide +kernel

/-- Regenerated fact: **the cache key is computed from the template as the caller passed it** — `hashTemplate` is called in
    one place, on the parameter itself, and the parameter is never assigned to.  A key over a trimmed, normalised or
    re-encoded copy (three of the seeded changes: documents that differ in leading blank lines share a tree and report each
    other's line numbers) breaks this theorem. -/
theorem C13_key_is_the_template : Gomjml.Gen.Misc.cacheKeyArgs = [("mjml.parseAST", "mjmlContent")] := rfl

end Gomjml.Props.C13
