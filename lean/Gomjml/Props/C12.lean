import Gomjml.Core.MapIter
import Gomjml.Core.Tag
import Gomjml.Gen.Misc
import Gomjml.Gen.TextReads
import Gomjml.Core.Tree
/-! # C12 — non-semantic variation of source or options does not change the email (property theorems only) -/
namespace Gomjml.Props.C12

/-- attribute order within a tag: both ways the code reads attributes — the first-match scan of `MJMLNode.GetAttribute`
    and the `Nat`-keyed map built by `NewBaseComponent` — are invariant under permuting a tag's attributes -/
theorem C12_attr_order_lookup {V} (l l' : List (String × V)) (h : l.Perm l') (nd : (l.map Prod.fst).Nodup) (n : String) :
    l.lookup n = l'.lookup n := Gomjml.MapIter.lookup_perm l l' h nd n
theorem C12_attr_order_map {V W} (g : Nat → V → W) (l l' : List (Nat × V)) (h : l.Perm l')
    (nd : (l.map Prod.fst).Nodup) (m0 : Nat → Option W) :
    l.foldl (fun m e => Gomjml.MapIter.upd m e.1 (g e.1 e.2)) m0 = l'.foldl (fun m e => Gomjml.MapIter.upd m e.1 (g e.1 e.2)) m0 :=
  Gomjml.MapIter.keyed_insert_perm g l l' h nd m0

/-- Regenerated fact: every loop over a parser node's attribute slice is one of these — the map builder, the validator (a set
    of reports), the global-attribute collector (keyed inserts), the first-match lookup, and the three reconstructions of
    author HTML inside mj-text / mj-table (author markup: its attribute order is content, not structure) -/
theorem C12_attrs_iterations :
    ∀ r ∈ Gomjml.Gen.Misc.attrsIterations, r.1 ∈
      ["mjml/components.(*MJTableComponent).reconstructHTMLElement", "mjml/components.(*MJTextComponent).reconstructHTMLElement",
       "mjml/components.NewBaseComponent", "mjml/components.validateComponentAttributes",
       "mjml/globals.(*GlobalAttributes).processAttributesElement", "parser.(*MJMLNode).GetAttribute",
       "parser.(*MJMLNode).GetMixedContent"] := by decide +kernel

open Gomjml.Tag in
/-- debug tags only add `data-mj-debug-*` attributes: on the byte-exact model of `html.HTMLTag`, adding an attribute the tag
    does not carry yet inserts exactly one ` name="value"` group after the existing attributes; deleting that group gives back
    the original open tag write for write -/
theorem C12_debug_only_adds (t : HTag) (n v : String) (h : ∀ a ∈ t.attrs, a.1 ≠ n) :
    renderOpen (addAttr t n v) =
      (["<", t.name] ++ t.attrs.flatMap attrWrites) ++ attrWrites (n, v) ++ (classWrites t.classes ++ stylesWrites t.styles ++ [">"]) ∧
    renderOpen t = (["<", t.name] ++ t.attrs.flatMap attrWrites) ++ (classWrites t.classes ++ stylesWrites t.styles ++ [">"]) :=
  renderOpen_addAttr_fresh t n v h

/-- Regenerated fact: the debug option is read in exactly one place (`AddDebugAttribute`) and set in one (`WithDebugTags`) -/
theorem C12_debug_sites :
    ∀ f ∈ Gomjml.Gen.Misc.debugTagSites, f ∈ ["mjml.WithDebugTags", "mjml/components.(*BaseComponent).AddDebugAttribute"] := by decide +kernel

/-- non-vacuity -/
example : Gomjml.Tag.bytes (Gomjml.Tag.renderOpen (Gomjml.Tag.addAttr ⟨"div", [("role", "x")], ["k"], [("color", "red")]⟩ "data-mj-debug-text" "true"))
    = "<div role=\"x\" data-mj-debug-text=\"true\" class=\"k\" style=\"color:red;\">" := by decide +kernel

/-! ### indentation and line breaks between structural elements -/

/-- the tree builder reads back every serialised tree, whatever follows it (`C18_tree_sound` is the other direction): the
    element structure that comes out is the one that went in — character data, white space included, becomes text parts of
    its parent and nothing else -/
theorem C12_tree_structure (n : Gomjml.Tree.Node) (rest : List Gomjml.Tree.XTok) : Gomjml.Tree.parseDoc (n.toks ++ rest) = some n :=
  Gomjml.Tree.parseDoc_complete n rest

/-- structural components (body, section, column, group, wrapper, hero, head) whose rendering looks at character data
    at all, and how: the column only at the trimmed text of a column without children; the section only at the text of a section
    without children, and only when its trimmed text is not empty (`needsContentMSOTable`) — so white space between structural
    elements never reaches the output -/
def structuralTextReads : List (String × String × String × String) :=
  [("mjml/components.(*MJColumnComponent).renderColumnWithStylesToWriter", "mjml/components.MJColumnComponent", "Text", "trimmed"),
   ("mjml/components.(*MJSectionComponent).Render", "mjml/components.MJSectionComponent", "Text", "as-is")]

def structuralTypes : List String :=
  ["mjml/components.MJBodyComponent", "mjml/components.MJSectionComponent", "mjml/components.MJColumnComponent",
   "mjml/components.MJGroupComponent", "mjml/components.MJWrapperComponent", "mjml/components.MJHeroComponent",
   "mjml/components.MJHeadComponent"]

/-- **Regenerated fact: no other method of a structural component reads character data** (complete table of the reads of
    `Text`, `MixedContent`, `GetTextContent`, `GetMixedContent` outside the parser, with the receiver type of each function) -/
theorem C12_text_reads :
    ∀ r ∈ Gomjml.Gen.TextReads.textReads, r.2.1 ∈ structuralTypes → r ∈ structuralTextReads := by decide +kernel

/-- non-vacuity: the table has the reads of the content components too (they are not structural) -/
example : ("mjml/components.(*MJButtonComponent).Render", "mjml/components.MJButtonComponent", "GetMixedContent()", "as-is") ∈ Gomjml.Gen.TextReads.textReads := by decide +kernel

end Gomjml.Props.C12
