import Gomjml.Core.Api
import Gomjml.Gen.PkgVars
/-! # C08 — results do not depend on call history; all API paths agree -/
namespace Gomjml.Props.C08
open Gomjml.Api

/-- after ANY finite history of calls, Render / RenderWithAST / RenderFromAST / NewFromAST return what they return as the
    first call of a fresh process -/
theorem C08_history_independent (w : World) (hist : List Call) (c : Call) (h : ∀ k, c ≠ .renderTree k) :
    (step w (run w init hist).1 c).2 = fresh w c := step_eq_fresh w _ c h

/-- the one-shot call = class-order rewrite of rendering from a pre-parsed tree (`hv`: the `match` on
    the right leaves an `okValidation` as it is, whereas `Render` reorders it too); RenderWithAST = RenderFromAST -/
theorem C08_paths_agree (w : World) (s s' : St) (d : Doc) (hv : w.validation d = none) (hp : w.parse d = .ok ()) :
    (step w s (.render d)).2 = (match (step w s' (.renderFromAST d)).2 with | .ok h => .ok (w.reorder h) | r => r) ∧
    (step w s (.renderWithAST d)).2 = (step w s' (.renderFromAST d)).2 := by
  cases hr : w.renderErr d <;> simp [step, hp, finish, hv, hr]

/-- the step-by-step path (NewFromAST, then RenderComponentString, nothing in between) gives the same HTML -/
theorem C08_step_by_step (w : World) (s : St) (d : Doc) (hp : w.parse d = .ok ()) (hr : w.renderErr d = none) :
    let s1 := (step w s (.newFromAST d)).1
    (step w s1 (.renderTree s.trees.length)).2 = .ok (w.html d (w.attrs d) (w.attrs d) []) := by
  simp [step, hp, hr]

/-- **kept component trees too**: what rendering a tree returns is the same before and after ANY history of other calls: the tree reads the attribute store it was built with -/
theorem C08_tree_history_independent (w : World) (hist : List Call) (s : St) (k : Nat) (hk : k < s.trees.length)
    (hc : ∀ c ∈ hist, c ≠ .renderTree k) :
    (step w (run w s hist).1 (.renderTree k)).2 = (step w s (.renderTree k)).2 :=
  have hk' := List.getElem?_eq_getElem hk
  tree_result_congr w s _ k ((tree_survives_run w k hist s hc hk').trans hk'.symm)

/-- … namely the store of its own document -/
theorem C08_tree_own_store (w : World) (s : St) (k : Nat) (d : Doc) (gb : G) (seen : List G) (hk : s.trees[k]? = some (d, gb, seen))
    (hr : w.renderErr d = none) :
    (step w s (.renderTree k)).2 = .ok (w.html d gb gb seen) := by
  simp [step, hk, hr]

/-- document 7 accumulates state over renderings of its tree, document 9 fails to render -/
def wEx : World :=
  { parse := fun _ => .ok (), attrs := fun d => d + 1, html := fun d gb gr seen => 100 * d + 10 * gb + gr + (if d = 7 then 1000 * seen.length else 0),
    validation := fun _ => none, renderErr := fun d => if d = 9 then some 1 else none, reorder := id }
/-- the shape of finding C08-F1 (closed): a compilation between building a tree and rendering it changes nothing -/
example : (run wEx init [.newFromAST 1, .render 5, .renderTree 0]).2.getLast? = (run wEx init [.newFromAST 1, .renderTree 0]).2.getLast? := by
  decide
/-- what the model still allows (the harness watches it, `statebits`): a stateful tree renders differently the second time -/
example : (run wEx init [.newFromAST 7, .renderTree 0, .renderTree 0]).2.getLast? ≠ (run wEx init [.newFromAST 7, .renderTree 0]).2.getLast? := by
  decide
/-- a compilation that fails while rendering leaves nothing behind for the next one -/
example : (run wEx init [.render 9, .render 1]).2 = [.fail 1, (fresh wEx (.render 1))] := by decide
/-- non-vacuity -/
example : (run wEx init [.newFromAST 1, .renderTree 0]).2.getLast? = some (.ok (100 + 20 + 2)) := by decide

/-- Regenerated fact: the only process-wide state a compilation can carry from one call to the next is the attribute store
    (everything else written at run time outside `sync.Once` / `init` is the cache machinery, whose transparency is C13).
    Rows: (variable, function, guard). -/
theorem C08_history_carriers :
    ((Gomjml.Gen.PkgVars.pkgVarWriters.filter (fun r => r.2.2 != "once" && r.2.2 != "init")).map (fun r => r.1)).eraseDups
      = ["mjml.cleanupCancel", "mjml.sfCalls", "mjml/globals.instance"] := by decide +kernel

end Gomjml.Props.C08
