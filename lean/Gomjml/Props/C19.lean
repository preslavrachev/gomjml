import Gomjml.Core.Tag
import Gomjml.Core.InlineTagProofs
import Gomjml.Core.InlineScan
import Gomjml.Core.InlineCss
import Gomjml.Gen.ClassSites
import Gomjml.Core.ClassAttr
/-! # C19 — inline CSS is applied completely and touches nothing but style attributes (property theorems only)

Component side, on the byte-exact `HTMLTag` model.  Author-HTML side, on the byte-exact model of the scanner's per-tag step
(`InlineTag`: `parseTag` and the write-back of `inlineStylesInTag`), tied to the implementation by running both on the same start
tags, and of the fragment loop around it (`InlineScan`: text, comments, end tags copied through). -/
namespace Gomjml.Props.C19
open Gomjml.Tag

/-- applying inline rules to a component's tag changes nothing but its style list, to which exactly the declarations of
    the targeted rules are appended, in the order of `classes` and rule order -/
theorem C19_only_styles (rules : Rules) (t : HTag) (classes : List String) :
    applyInline rules t classes = { t with styles := t.styles ++ declsFor rules classes } := applyInline_eq rules t classes

/-- the rendered open tag is write-for-write the same outside ` style="…"` -/
theorem C19_rendered (rules : Rules) (t : HTag) (classes : List String) :
    renderOpen (applyInline rules t classes) =
      ["<", t.name] ++ t.attrs.flatMap attrWrites ++ classWrites t.classes ++ stylesWrites (t.styles ++ declsFor rules classes) ++ [">"] :=
  renderOpen_applyInline rules t classes

/-- a document without a matching inline rule is untouched -/
theorem C19_no_match (rules : Rules) (t : HTag) (classes : List String) (h : ∀ c ∈ classes, rules.lookup c = none) :
    applyInline rules t classes = t := applyInline_none rules t classes h

/-- non-vacuity -/
example : bytes (renderOpen (applyInline [("ka", [("color", "red"), ("font-weight", "bold")]), ("kb", [("margin", "0")])]
                              ⟨"div", [("class", "kb zz ka")], [], [("padding", "1px")]⟩ ["kb", "zz", "ka"]))
    = "<div class=\"kb zz ka\" style=\"padding:1px;margin:0;color:red;font-weight:bold;\">" := by decide +kernel

/-- the two rows that put a *derived* class on an element — `<class>-outlook` on the Outlook cell of a navbar link,
    `<class>-thumbnail` on a carousel thumbnail — which no author rule targets -/
def derivedClassOnly : List String :=
  ["mjml/components.(*MJCarouselComponent).renderThumbnails", "mjml/components.(*MJNavbarComponent).renderMSOTableCellOpen"]

/-- **completeness over all code sites**: every function of package `components` that puts a css-class on an element also
    applies the inline rules (regenerated table) but `derivedClassOnly` -/
theorem C19_class_sites :
    ∀ r ∈ Gomjml.Gen.ClassSites.classSites, r.2 = "yes" ∨ r.1 ∈ derivedClassOnly := by decide +kernel

/-! ### author HTML: the per-tag step of the scanner -/
open Gomjml.InlineTag in
/-- **the parse of a start tag loses nothing**: `<`, white space, the name, the attributes as written (each with the white space in
    front of it), what stands at the stopping point, and the bytes the loop did not look at are the tag, byte for byte -/
theorem C19_tag_parse_lossless (tag : List Gomjml.Amp.B) (p : Parsed) (h : parse tag = some p) :
    (∀ a ∈ p.attrs, a.raw ≠ []) ∧
    ∃ lead mid, allSp lead ∧ midOk p.ending mid ∧
      tag = [Gomjml.Amp.lt] ++ lead ++ p.name ++ piecesOf p.attrs ++ mid ++ p.rest := parse_pieces tag p h

open Gomjml.InlineTag in
/-- **touches nothing but the style attribute (a style attribute is added)**: for EVERY start tag the scanner parses, with a class
    the rules target and no style attribute, the output is `<`, the name and every attribute exactly as written, then
    ` style="<declarations>"`, then the closing (`hne` follows from `hci` and is not used) -/
theorem C19_tag_append (inl : List Gomjml.Amp.B → List Gomjml.Amp.B) (tag : List Gomjml.Amp.B) (p : Parsed) (hp : parse tag = some p)
    (hne : p.attrs ≠ []) (ci : Nat) (hci : lastIdx classN p.attrs = some ci)
    (hd : inl (p.attrs[ci]?.map (·.value) |>.getD []) ≠ []) (hs : lastIdx styleN p.attrs = none) :
    inlineTag inl tag = [Gomjml.Amp.lt] ++ p.name ++ piecesOf p.attrs ++
      ([32] ++ styleN ++ [eqs] ++ [Gomjml.Amp.dq] ++ inl (p.attrs[ci]?.map (·.value) |>.getD []) ++ [Gomjml.Amp.dq]) ++ closing tag p ++ [Gomjml.Amp.gt] :=
  have _ := hne
  inlineTag_append inl tag p hp ci hci hd hs

open Gomjml.InlineTag in
/-- **touches nothing but the style attribute (the style attribute is extended)**: every attribute in front of and behind the
    (last) style attribute is written back exactly as it was written; the style attribute keeps the white space in front of it,
    its name and its quote and gets the merged value -/
theorem C19_tag_merge (inl : List Gomjml.Amp.B → List Gomjml.Amp.B) (tag : List Gomjml.Amp.B) (p : Parsed) (hp : parse tag = some p)
    (hne : p.attrs ≠ []) (ci : Nat) (hci : lastIdx classN p.attrs = some ci)
    (hd : inl (p.attrs[ci]?.map (·.value) |>.getD []) ≠ []) (si : Nat) (hs : lastIdx styleN p.attrs = some si)
    (a : Attr) (ha : p.attrs[si]? = some a) :
    inlineTag inl tag = [Gomjml.Amp.lt] ++ p.name ++ piecesOf (p.attrs.take si) ++
      (a.pre ++ styleText a (mergeStyle a.value (inl (p.attrs[ci]?.map (·.value) |>.getD [])))) ++
      piecesOf (p.attrs.drop (si + 1)) ++ closing tag p ++ [Gomjml.Amp.gt] :=
  have _ := hne
  inlineTag_merge inl tag p hp ci hci hd si hs a ha

open Gomjml.InlineTag in
/-- non-vacuity: `<a href=http://x/a class=ka>` (bytes) parses cleanly (every byte looked at), has a targeted class and no style
    attribute, and comes out as `<a href=http://x/a class=ka style="color:red;">` -/
example :
    let tag : List Gomjml.Amp.B := [60, 97, 32, 104, 114, 101, 102, 61, 104, 116, 116, 112, 58, 47, 47, 120, 47, 97, 32, 99, 108, 97, 115, 115, 61, 107, 97, 62]
    let inl : List Gomjml.Amp.B → List Gomjml.Amp.B := fun c => if c == [107, 97] then [99, 111, 108, 111, 114, 58, 114, 101, 100, 59] else []
    (parse tag).map Parsed.clean = some true ∧ inlineTag inl tag = [60, 97, 32, 104, 114, 101, 102, 61, 104, 116, 116, 112, 58, 47, 47, 120, 47, 97, 32, 99, 108, 97, 115, 115, 61, 107, 97, 32, 115, 116, 121, 108, 101, 61, 34, 99, 111, 108, 111, 114, 58, 114, 101, 100, 59, 34, 62] := by decide +kernel

open Gomjml.InlineTag in
/-- … and `<p style='a:b' class="ka" id=x/>` keeps `id=x`, the quotes and the self-closing mark: `<p style='a:b;color:red;' class="ka" id=x/>` -/
example :
    let tag : List Gomjml.Amp.B := [60, 112, 32, 115, 116, 121, 108, 101, 61, 39, 97, 58, 98, 39, 32, 99, 108, 97, 115, 115, 61, 34, 107, 97, 34, 32, 105, 100, 61, 120, 47, 62]
    let inl : List Gomjml.Amp.B → List Gomjml.Amp.B := fun c => if c == [107, 97] then [99, 111, 108, 111, 114, 58, 114, 101, 100, 59] else []
    (parse tag).map Parsed.clean = some true ∧ inlineTag inl tag = [60, 112, 32, 115, 116, 121, 108, 101, 61, 39, 97, 58, 98, 59, 99, 111, 108, 111, 114, 58, 114, 101, 100, 59, 39, 32, 99, 108, 97, 115, 115, 61, 34, 107, 97, 34, 32, 105, 100, 61, 120, 47, 62] := by decide +kernel

/-! ### author HTML: the scanner over a whole fragment -/
open Gomjml.InlineScan in
/-- **the scanner loses nothing**: text, comments, end tags and other markup, start tags — the segments it cuts a fragment into are
    the fragment, byte for byte (for every byte string: unterminated comments and tags, stray `<` and quotes included) -/
theorem C19_scan_lossless (s : List Gomjml.Amp.B) : (segments (s.length + 1) s).flatMap Seg.bytes = s := segments_bytes _ s

open Gomjml.InlineScan in
/-- **everything but start tags is copied; each start tag goes through the per-tag step** (for which `C19_tag_append` /
    `C19_tag_merge` say that only the style attribute changes) -/
theorem C19_scan_structure (inl : List Gomjml.Amp.B → List Gomjml.Amp.B) (s : List Gomjml.Amp.B) :
    scan inl s = (segments (s.length + 1) s).flatMap (fun seg => match seg with
      | .start t => Gomjml.InlineTag.inlineTag inl t
      | .text b => b
      | .other b => b) := by
  unfold scan
  congr 1
  funext seg
  cases seg <;> rfl

open Gomjml.InlineScan in
/-- **no targeted class, no change**: when no class value gets declarations the fragment comes out byte for byte -/
theorem C19_scan_untargeted_identity (inl : List Gomjml.Amp.B → List Gomjml.Amp.B) (h : ∀ c, inl c = []) (s : List Gomjml.Amp.B) :
    scan inl s = s := scan_id inl h s

/-! ## from the style text to the table the renderer inlines (`mjml/inline_styles.go`, byte-exact Model) -/
open Gomjml.InlineCss in
/-- **the declarations of a class are those of every rule that names it** — for every list of inline style texts and every
    class name, the table built by `collectInlineClassStyles` (rule by rule, selector by selector, appending to whatever the
    class already has) holds exactly: the declarations of each rule that names the class as a lone selector, once per
    naming, in source order.  Grouped selectors, repeated selectors, rules for other classes in between, several style blocks:
    nothing leaks from one class's list into another's and nothing is lost -/
theorem C19_table_is_spec (texts : List (List Gomjml.Amp.B)) (c : List Gomjml.Amp.B) :
    (collect texts).get c = spec texts c := collect_spec texts c

open Gomjml.InlineCss in
/-- nothing but declarations of parsed rules gets into the table, and every kept declaration has a property and a value -/
theorem C19_table_entries (texts : List (List Gomjml.Amp.B)) (c : List Gomjml.Amp.B) :
    (∀ d ∈ (collect texts).get c, ∃ t ∈ texts, ∃ r ∈ parseRules t, d ∈ r.decls) ∧
    ∀ part, ∀ d ∈ parseDecls part, d.prop ≠ [] ∧ d.val ≠ [] :=
  ⟨fun d hd => spec_mem texts c d (by rwa [collect_spec] at hd), parseDecls_nonempty⟩

open Gomjml.InlineCss in
/-- only a lone class selector is inlined: a dot, a non-empty name, and nothing that continues the selector
    (no descendant, compound, pseudo-class, attribute or universal part) -/
theorem C19_lone_class_only (sel name : List Gomjml.Amp.B) (h : extractClass sel = some name) :
    trimSpace sel = 46 :: name ∧ name ≠ [] ∧ ∀ b ∈ name, b ∉ combinators := extractClass_lone sel name h

open Gomjml.InlineCss in
/-- non-vacuity, on `.a, .b { color: red; } .a.x { top: 0 } .a { margin: 0 } .b{padding:4px}`: class `a` gets colour and
    margin, class `b` colour and padding, the compound selector gives nothing to anybody -/
example :
    let css : List Gomjml.Amp.B := [46, 97, 44, 32, 46, 98, 32, 123, 32, 99, 111, 108, 111, 114, 58, 32, 114, 101, 100, 59, 32, 125, 32, 46, 97, 46, 120, 32, 123, 32, 116,
      111, 112, 58, 32, 48, 32, 125, 32, 46, 97, 32, 123, 32, 109, 97, 114, 103, 105, 110, 58, 32, 48, 32, 125, 32, 46, 98, 123, 112, 97, 100, 100, 105, 110, 103, 58, 52, 112, 120, 125]
    (collect [css]).get [97] = [⟨[99, 111, 108, 111, 114], [114, 101, 100]⟩, ⟨[109, 97, 114, 103, 105, 110], [48]⟩] ∧
    (collect [css]).get [98] = [⟨[99, 111, 108, 111, 114], [114, 101, 100]⟩, ⟨[112, 97, 100, 100, 105, 110, 103], [52, 112, 120]⟩] ∧
    (collect [css]).get [120] = [] := by decide +kernel

/-- **`BuildClassAttribute` is "the non-empty parts joined by one blank"**, for every list of own classes and every value of
    `css-class` (the Go function has a count, a one-class shortcut and a loop with a `first` flag; all three agree with this) -/
theorem C19_class_attribute_joined (existing : List (List Gomjml.Amp.B)) (css : List Gomjml.Amp.B) :
    Gomjml.ClassAttr.build existing css = Gomjml.ClassAttr.spec existing css :=
  Gomjml.ClassAttr.build_spec existing css

/-- **applied completely, component side, from the style sheet text to the style string**: for every list of `mj-style inline`
    texts, every `tame` list of own classes and every `css-class` (`hc` is not used), `BuildInlineStyleString` of the built class attribute is the declarations of every rule
    naming one of the component's classes as a lone selector — classes in the order own parts, then `css-class`; per class
    the rules in source order — and nothing else -/
theorem C19_component_style_from_sheet (texts existing : List (List Gomjml.Amp.B)) (css : List Gomjml.Amp.B)
    (he : ∀ c ∈ existing, Gomjml.ClassAttr.tame c) (hc : Gomjml.ClassAttr.tame css) :
    Gomjml.ClassAttr.inlineStyle (Gomjml.InlineCss.collect texts) (Gomjml.ClassAttr.build existing css) =
      ((existing ++ [css]).flatMap Gomjml.Lengths.fields).flatMap fun c =>
        (Gomjml.InlineCss.spec texts c).flatMap Gomjml.ClassAttr.declBytes :=
  have _ := hc
  Gomjml.ClassAttr.inlineStyle_build texts existing css he

/-- non-vacuity: own class `m`, `css-class="a  b"`, the sheet `.a{x:1} .b{y:2} .a{z:3}` -/
example : Gomjml.ClassAttr.inlineStyle (Gomjml.InlineCss.collect [[46, 97, 123, 120, 58, 49, 125, 46, 98, 123, 121, 58, 50, 125, 46, 97, 123, 122, 58, 51, 125]])
    (Gomjml.ClassAttr.build [[109], []] [97, 32, 32, 98]) = [120, 58, 49, 59, 122, 58, 51, 59, 121, 58, 50, 59] := by decide +kernel

end Gomjml.Props.C19
