import Gomjml.Core.CharData
import Gomjml.Core.LayoutLeaves
import Gomjml.Core.MixedProofs
import Gomjml.Core.TextFlow
import Gomjml.Core.TextVoid
import Gomjml.Core.WrapDeliver
/-! # C04 — content fidelity: author content appears once, in order, as authored (property theorems only)

Parts: layout, on the skeleton model (`t` = one content slot: a count, not an order; never inside an Outlook conditional);
character data on the way out (`EscapeCharData`); inline content written back (`GetMixedContent`); the text of mj-text
from the source through the pre-pass and the XML layer to the inner HTML.  The last three are on the models of the parser
pipeline (see C18) and are judged on the real bytes by the harness's content matrix. -/
namespace Gomjml.Props.C04
open Gomjml.Layout Gomjml.Spec

/-- **exactly once**, as a count, for EVERY document (no side condition): the skeleton contains as many content tokens as the
    document has content slots, whatever the flags and the nesting (tokens carry no identity) -/
theorem C04_once (bs : List Block) : cnt (render bs) = (bs.map Block.slots).sum := content_count bs

/-- non-vacuity for `C04_once`: a document with five content slots -/
example : cnt (render [.section ⟨false, true, false, false, false, false, [.col ⟨true, [.text, .raw]⟩, .group [.col ⟨false, [.text]⟩, .raw false]]⟩,
                       .wrapper ⟨true, false, [.raw true, .sec ⟨true, false, false, true, false, false, []⟩]⟩]) = 5 := by decide +kernel

/-- **never only inside an Outlook-only comment — the full statement, for EVERY document of the layout grammar**: no content
    token sits in an Outlook conditional, whatever the wrappers contain.  No side condition. -/
theorem C04_visible_full (bs : List Block) : Visible ((render bs).map Tok.toG) := (wf_spec _ (C02_C03_all bs)).2.2

/-- the formerly failing shape: raw content between two sections is visible now -/
example : Visible ((render [.section ⟨false, false, false, false, false, false, []⟩, .raw false,
                            .section ⟨false, false, false, false, false, false, []⟩]).map Tok.toG) := C04_visible_full _

/-! ### with the content components filled in -/
open Gomjml.LayoutLeaves Gomjml.Leaves in
/-- **never only inside an Outlook-only comment, with real components**: in every document no author content — button label,
    table cell, social element text, navbar link, accordion title / text — sits inside an Outlook conditional (the only text the
    components write there is generated: the divider's `&nbsp;`) -/
theorem C04_visible_components (d : Doc) : Visible d.render := (doc_spec d).2.2

open Gomjml.LayoutLeaves Gomjml.Leaves in
/-- **exactly once, with real components**: a document that names a component for every slot renders exactly as many author
    content tokens as its components have content slots (one per table cell, per social element with text, per
    navbar link / accordion title / accordion text with content, …) -/
theorem C04_once_components (d : Doc) (h : d.Complete) : cntT d.render = (d.fills.map LeafM.slots).sum := doc_count d h

open Gomjml.Leaves in
/-- what was lost before the repairs (4c37da2, 4409645, 9f5d395, 24c6f9e, 0b2b55c) and is kept now: the text of a social
    element, every title and text of an accordion element (not only the last of each kind), raw content
    between the children of social / navbar / accordion / accordion element -/
example : cntT (LeafM.social false [.el ⟨true, true⟩, .raw false]).toks = 2 ∧
          cntT (LeafM.accordion [.el ⟨false, [.title true, .title true, .text true, .raw false]⟩, .raw false]).toks = 5 ∧
          cntT (LeafM.navbar false [.raw false, .link true, .raw false]).toks = 3 := by decide

/-! ### as authored: character data on the way out (`parser.EscapeCharData`, used by every slot that re-serialises decoded text) -/

/-- **what the author wrote is what the client shows**: a client that decodes the escaped text once gets the author's text back,
    whatever it contains — markup characters, text that itself looks like a reference (`&lt;`, `&nbsp;`, `&#60;`) -/
theorem C04_chardata_roundtrip (s : List Gomjml.Amp.B) :
    Gomjml.CharData.unescape (Gomjml.CharData.escape s).length (Gomjml.CharData.escape s) = s :=
  Gomjml.CharData.unescape_escape s _ (Gomjml.CharData.escape_length s)

/-- **character data never becomes markup**: the escaped text contains no `<` and no `>` -/
theorem C04_chardata_never_markup (s : List Gomjml.Amp.B) : ∀ b ∈ Gomjml.CharData.escape s, b ≠ 60 ∧ b ≠ 62 :=
  Gomjml.CharData.escape_no_markup s

/-- non-vacuity: the author's `&lt;b&gt; &amp;nbsp;` (decoded: `<b> &nbsp;`) goes out as `&lt;b&gt; &amp;nbsp;` -/
example : Gomjml.CharData.escape [60, 98, 62, 32, 38, 110, 98, 115, 112, 59]
    = [38, 108, 116, 59, 98, 38, 103, 116, 59, 32, 38, 97, 109, 112, 59, 110, 98, 115, 112, 59] := by decide

/-! ### as authored: inline content written back (`(*MJMLNode).GetMixedContent`: button, navbar link, social element,
accordion title / text) -/

open Gomjml.Mixed in
/-- **nested inline content comes back whole**: a client's tokenizer reading what the serialiser wrote gets every text run,
    every element and every attribute of the author's content (a void element's content apart), once, in order, decoded to
    what the author wrote — for every well-formed tree (no ampersand in attribute values), whatever the set of void elements -/
theorem C04_inline_roundtrip (void : List Gomjml.Amp.B → Bool) (ps : List (Part Node)) (hw : wfParts false ps = true) :
    read (serParts void ps) = some (evParts void ps) := read_content void ps hw

open Gomjml.Mixed in
/-- **the Model of `GetMixedContent` is that serialiser** on `tidy` trees: no level begins with a non-`plain` or ends with a
    non-`plainR` byte of text, so nothing is trimmed (the trimming itself is parity with MJML) -/
theorem C04_inline_model_is_core (void : List Gomjml.Amp.B → Bool) (f : Nat) (ps : List (Part Node))
    (hd : depthParts ps ≤ f) (ht : tidy ps = true) : content void (f + 1) ps = serParts void ps := content_tidy void f ps hd ht

open Gomjml.Mixed in
/-- … hence, for the function as it is, on such trees: what `GetMixedContent` returns reads back as the author's content -/
theorem C04_inline_content_roundtrip (void : List Gomjml.Amp.B → Bool) (f : Nat) (ps : List (Part Node))
    (hd : depthParts ps ≤ f) (ht : tidy ps = true) (hw : wfParts false ps = true) :
    read (content void (f + 1) ps) = some (evParts void ps) := by
  rw [content_tidy void f ps hd ht]; exact read_content void ps hw

open Gomjml.Mixed in
/-- PARTIAL — why attribute values with an ampersand are excluded: the serialiser escapes the double quote only, so a value
    that contains the text `&quot;` (the author wrote `&amp;quot;`) is written as it stands and a client reads a quote
    (recorded findings C04-F1..F8: ambiguous ampersands in attribute values) -/
theorem C04_inline_value_counterexample : unq (escQ quot).length (escQ quot) = [34] ∧ quot ≠ [34] := by decide

open Gomjml.Mixed in
/-- non-vacuity: `Go <b class="x y">now</b>!` is tidy and well-formed, its depth is 1 -/
example : tidy [.text [71, 111, 32], .node (.mk [98] [([99, 108, 97, 115, 115], [120, 32, 121])] [.text [110, 111, 119]]), .text [33]] = true ∧
    wfParts false [.text [71, 111, 32], .node (.mk [98] [([99, 108, 97, 115, 115], [120, 32, 121])] [.text [110, 111, 119]]), .text [33]] = true ∧
    depthParts [.text [71, 111, 32], .node (.mk [98] [([99, 108, 97, 115, 115], [120, 32, 121])] [.text [110, 111, 119]]), .text [33]] ≤ 1 := by
  decide

/-! ### as authored: the text of mj-text on its way to the inner HTML (`buildRawInnerHTML`) -/

/-- **mj-text keeps the author's text**: collapsing white space and trimming the ends touch nothing but blanks, tabs and
    line breaks — every other byte comes out, once, in order (texts without the byte 0xC2, so without no-break spaces, each of which is
    written as `&#xA0;`) -/
theorem C04_text_keeps_ink (s : List Gomjml.Amp.B) (h : ∀ b ∈ s, b ≠ 0xC2) :
    Gomjml.TextFlow.ink (Gomjml.TextFlow.textInner s) = Gomjml.TextFlow.ink s := Gomjml.TextFlow.textInner_ink s h

/-- … what is left of the white space are single blanks (no tab, no line break, never two blanks in a row), and doing it
    again changes nothing -/
theorem C04_text_whitespace (s : List Gomjml.Amp.B) :
    Gomjml.TextFlow.tidyWs false (Gomjml.TextFlow.collapse false s) = true ∧
    Gomjml.TextFlow.collapse false (Gomjml.TextFlow.collapse false s) = Gomjml.TextFlow.collapse false s :=
  ⟨Gomjml.TextFlow.collapse_tidy s false, Gomjml.TextFlow.collapse_idem s false⟩

/-- the void-tag normaliser that runs next rewrites tags only: a text without `<` passes its tag scan unchanged -/
theorem C04_void_normaliser_keeps_text (fuel : Nat) (s : List Gomjml.Amp.B) (h : ∀ b ∈ s, b ≠ 60) :
    Gomjml.TextVoid.normF fuel s = s := Gomjml.TextVoid.normF_no_lt fuel s h

/-- **the void-tag normaliser re-spells tags and nothing else**: tags are rewritten (` />`, `<br>` without its slash), blanks next
    to a `<br>` go — every byte of the content that is neither white space nor a slash comes out, once, in order -/
theorem C04_void_normaliser_respells_only (s : List Gomjml.Amp.B) :
    Gomjml.TextVoid.inkS (Gomjml.TextVoid.normalize s) = Gomjml.TextVoid.inkS s := Gomjml.TextVoid.normalize_inkS s

/-- `"  a \n\t b<br/>  "` becomes `"a b<br/>"` -/
example : Gomjml.TextFlow.textInner [32, 32, 97, 32, 10, 9, 32, 98, 60, 98, 114, 47, 62, 32, 32] = [97, 32, 98, 60, 98, 114, 47, 62] := by decide

/-- **mj-text content reaches the renderer as written**: for every content that does not begin with a CDATA section of the
    author's, what the XML layer decodes from what the pre-pass wrote (the byte-exact Model `Lines.wrapInner`, with its
    `]]>` escaping) is the content itself, void tags normalised — nothing decoded, nothing lost, `]]>` included.  (`Passes.Rr`
    of the round-trip proof is the pass's `replaceAll`: `Passes.Rr_replaceAll`.) -/
theorem C04_text_content_delivered (inner : List Gomjml.Amp.B)
    (h : Gomjml.Passes.cdStart.isPrefixOf (inner.dropWhile Gomjml.Passes.isWs) = false) :
    Gomjml.Passes.cdataDecode (Gomjml.Lines.wrapInner inner) = some (Gomjml.Lines.voidNorm inner) :=
  Gomjml.Lines.wrapInner_delivered inner h

/-- **… and so does content behind a leading CDATA section** (`wrapOutsideCDATA`, the branch repaired in cb901ef): whenever
    `Lines.authorText` yields `t` (`none`: a section has no end), the XML layer decodes what the pass wrote to `t`, the
    author's text (his CDATA sections opened, every other byte as he wrote it — an escape stays the escape he wrote, a
    `]]>` outside his sections stays a `]]>`), for every content and any number of sections -/
theorem C04_text_content_delivered_behind_cdata (inner t : List Gomjml.Amp.B)
    (h : Gomjml.Passes.cdStart.isPrefixOf (inner.dropWhile Gomjml.Passes.isWs) = true)
    (ht : Gomjml.Lines.authorText ((Gomjml.Lines.voidNorm inner).length + 1) (Gomjml.Lines.voidNorm inner) = some t) :
    Gomjml.Lines.dec (Gomjml.Lines.wrapInner inner) = some t := by
  unfold Gomjml.Lines.wrapInner
  rw [if_pos h]
  exact Gomjml.Lines.wrapOutside_dec ht

/-- **mj-text, from the source to the inner HTML**: for content that does not begin with a CDATA section and has no byte 0xC2
    (so no no-break space), the inner HTML the component builds (`TextFlow.textInner`, the step in front of the void-tag
    respelling, for which see `C04_void_normaliser_respells_only`) keeps every byte of the author's content that is not white space, in order —
    the pre-pass (void tags respelled, `]]>` escaped), the XML layer's decoding and the white-space collapsing composed -/
theorem C04_text_end_to_end (inner : List Gomjml.Amp.B)
    (h : Gomjml.Passes.cdStart.isPrefixOf (inner.dropWhile Gomjml.Passes.isWs) = false) (hc : ∀ b ∈ inner, b ≠ 0xC2) :
    ∃ x, Gomjml.Passes.cdataDecode (Gomjml.Lines.wrapInner inner) = some x ∧
      Gomjml.TextFlow.ink (Gomjml.TextFlow.textInner x) = Gomjml.TextFlow.ink inner := by
  refine ⟨Gomjml.Lines.voidNorm inner, Gomjml.Lines.wrapInner_delivered inner h, ?_⟩
  rw [Gomjml.TextFlow.textInner_ink _ (Gomjml.TextFlow.ne_of_ink_eq (Gomjml.Lines.voidNorm_ink inner) rfl hc), Gomjml.Lines.voidNorm_ink]

end Gomjml.Props.C04
