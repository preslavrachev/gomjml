import Gomjml.Gen.LengthSites
import Gomjml.Core.Widths
import Gomjml.Core.Lengths
import Gomjml.Gen.Misc
import Gomjml.Gen.PkgVars
/-! # C10 — width flow: boxes nest and Outlook pixel widths match the responsive layout (property theorems only)

The clauses are theorems about the Model `Widths.impl` (top level, wrapper, box, nesting, hero) or about the functions it is
built from (`colPx`, `leafW`, `colContent`). -/
namespace Gomjml.Props.C10
open Gomjml.Widths

/-- every top-level block is as wide as the body -/
theorem C10_top_level (d : Doc) (h : d.wrapper = none) : (impl d).sectionW = d.body := by
  rw [impl_sectionW, blockW, h]

/-- a block inside a wrapper is the wrapper's width minus the wrapper's horizontal padding and borders (never more than the
    wrapper, which is as wide as the body) -/
theorem C10_in_wrapper (d : Doc) (e : Edges) (h : d.wrapper = some e) :
    (impl d).wrapperW = d.body ∧ (impl d).sectionW = (d.body : Int) - (e.total : Int) ∧ (impl d).sectionW ≤ (impl d).wrapperW := by
  have hs : (impl d).sectionW = (d.body : Int) - (e.total : Int) := by rw [impl_sectionW, blockW, h]
  exact ⟨impl_wrapperW d, hs, by rw [hs, impl_wrapperW]; omega⟩

/-- a block's content box is never wider than the block … -/
theorem C10_box (d : Doc) : (impl d).box ≤ (impl d).sectionW := by
  cases hb : d.block <;> simp only [impl, hb] <;> exact secBox_le _ _

/-- … and is exactly the block minus padding and borders whenever that leaves anything -/
theorem C10_box_exact (d : Doc) (e : Edges) (items : List Item) (hb : d.block = .sec e items)
    (h : 0 < blockW d - (e.total : Int)) : (impl d).box = (spec d).box := by
  simp only [impl, spec, hb]; exact secBox_exact _ _ h

/-- no element is ever given a width larger than the content box of its parent: below a section, every column and group is at
    most the section's content box, a column inside a group at most the group, a column's content box at most the column, an
    image or divider at most that content box (where the column has a content box at all) — for columns and groups of
    automatic or percentage width, none above 100% (`Item.Sane`: a pixel width is handed on as written, whatever the box) -/
theorem C10_nesting (d : Doc) (e : Edges) (items : List Item) (hb : d.block = .sec e items) (hw : 0 ≤ blockW d)
    (hs : ∀ it ∈ items, it.Sane) : ∀ o ∈ (impl d).items, o.Fits (impl d).box := by
  intro o ho
  simp only [impl, hb, List.mem_map] at ho
  obtain ⟨it, hit, rfl⟩ := ho
  simp only [impl, hb]
  exact itemOut_fits _ _ it (secBox_nonneg _ _ hw) (List.length_pos_of_mem hit) (hs it hit)

/-- the same below a hero: its images and dividers are at most its content box -/
theorem C10_hero (d : Doc) (e : Edges) (leaves : List Leaf) (hb : d.block = .hero e leaves) (hs : ∀ lf ∈ leaves, lf.Sane) :
    ∀ x, 0 < (impl d).box → some x ∈ (impl d).heroLeaves → x ≤ (impl d).box := by
  intro x hpos hx
  simp only [impl, hb, List.mem_map] at hx
  obtain ⟨lf, hmem, hlf⟩ := hx
  simp only [impl, hb] at hpos ⊢
  exact leaf_le _ lf x hpos (hs lf hmem) hlf

/-- the pixel width handed to Outlook for a column is its responsive percentage (or pixel) class applied to its section's
    content box, to within the half pixel of rounding to whole pixels -/
theorem C10_outlook_px (box : Int) (k : Nat) (w : ColW) (hk : 0 < k) (hw : ∀ a b, w = .pct a b → 0 < b) :
    2 * (((specW (box, 1) k w).2 : Int) * colPx box k w - (specW (box, 1) k w).1) ≤ ((specW (box, 1) k w).2 : Int) ∧
    -((specW (box, 1) k w).2 : Int) ≤ 2 * (((specW (box, 1) k w).2 : Int) * colPx box k w - (specW (box, 1) k w).1) :=
  colPx_close box k w hk hw

/-- sibling columns with whole-number percentages of at most 100 together (automatic widths: no bound proved) — PARTIAL:
    "never more than the box" is false of the code and of the Model, each Outlook width being rounded to a whole pixel; what
    holds: at most the box plus half a pixel per column.  (MJML prints the unrounded quotient: next theorem.) -/
theorem C10_sibling_sum_partial (box : Int) (hb : 0 ≤ box) (ps : List Nat) (h : ps.sum ≤ 100) :
    2 * (ps.map (fun p => colPx box ps.length (.pct p 1))).sum ≤ 2 * box + ps.length :=
  sibling_sum_partial box hb ps h

/-- unrounded they stay within the box -/
theorem C10_sibling_sum_exact_widths (box : Int) (hb : 0 ≤ box) (ps : List Nat) (h : ps.sum ≤ 100) :
    (ps.map (fun (p : Nat) => box * (p : Int))).sum ≤ box * 100 := exact_sum_le box hb ps h

/-- the witness (finding C10-F1): three automatic columns in a 500 px section get 167 px each, 501 px together (automatic
    widths: outside the family of the partial theorem) -/
theorem C10_sibling_sum_counterexample : colPx 500 3 .auto + colPx 500 3 .auto + colPx 500 3 .auto = 501 := by decide

/-- images and dividers without an explicit width fill exactly the space left after padding -/
theorem C10_leaf_fills (c : Int) (l r : Nat) (lf : Leaf) (hlf : lf = .image l r ∨ lf = .divider l r) (x : Int) (hc : 0 < c)
    (h : leafW c lf = some x) : 0 < c - ((l + r : Nat) : Int) → x = c - ((l + r : Nat) : Int) :=
  fun hp => by
    rcases hlf with rfl | rfl
    · exact (Option.some.inj ((leafW_image c l r hc hp).symm.trans h)).symm
    · exact (Option.some.inj ((leafW_divider c l r hc).symm.trans h)).symm

/-- an image with an explicit width keeps it only as far as the space left after padding allows -/
theorem C10_explicit_width_clamped (c : Int) (l r w : Nat) (x : Int) (hc : 0 < c) (h : leafW c (.imageW l r w) = some x)
    (hp : 0 < c - ((l + r : Nat) : Int)) : x = min (w : Int) (c - ((l + r : Nat) : Int)) :=
  (Option.some.inj ((leafW_imageW c l r w hc hp).symm.trans h)).symm

/-- a divider with a percentage width gets that percentage of the space left after its padding, cut to a whole pixel: the
    Outlook width `x` satisfies `x ≤ avail·p/100 < x + 1` (stated without division: p = a/b) -/
theorem C10_divider_percentage (c : Int) (l r a b : Nat) (x : Int) (hc : 0 < c) (hb : 0 < b)
    (h : leafW c (.dividerP l r a b) = some x) (hp : 0 ≤ c - ((l + r : Nat) : Int)) :
    ((100 * b : Nat) : Int) * x ≤ (c - ((l + r : Nat) : Int)) * (a : Int) ∧
    (c - ((l + r : Nat) : Int)) * (a : Int) < ((100 * b : Nat) : Int) * (x + 1) := leaf_pct c l r a b x hc hb h hp

/-- a column's content box is exactly the column minus its own padding and borders, when that is not negative -/
theorem C10_column_content (px : Int) (e : Edges) (h : 0 ≤ px - (e.total : Int)) : colContent px e = px - (e.total : Int) :=
  colContent_exact px e h

/-- 480 px body, section padding "0 25px", three automatic columns: 430 px box, 143 px each (143⅓ rounded), an image with the
    default 25 px side padding gets 93 px -/
example : (impl ⟨480, none, .sec ⟨25, 25, 0, 0⟩ [.col ⟨.auto, ⟨0, 0, 0, 0⟩, .image 25 25⟩, .col ⟨.auto, ⟨0, 0, 0, 0⟩, .other⟩,
      .col ⟨.auto, ⟨0, 0, 0, 0⟩, .other⟩]⟩).box = 430 := by decide
example : colPx 430 3 .auto = 143 ∧ leafW (colContent 143 ⟨0, 0, 0, 0⟩) (.image 25 25) = some 93 ∧
    leafW 300 (.imageW 25 25 900) = some 250 ∧ leafW 300 (.imageW 25 25 100) = some 100 ∧ leafW 300 .carousel = some 300 ∧
    leafW 600 (.dividerP 25 25 75 2) = some 206 ∧ leafW 160 (.dividerP 0 0 125 2) = some 100 := by decide
/-- a wrapper with padding "10px 20px" and a 1 px border in a 500 px body: its section is 458 px wide -/
example : (impl ⟨500, some ⟨20, 20, 1, 1⟩, .sec ⟨0, 0, 0, 0⟩ []⟩).sectionW = 458 := by decide
/-- a 60% group of a 480 px box is 288 px; its 25% column 72 px, its automatic column (of two) 144 px -/
example : groupPx 480 2 (.pct 60 1) = 288 ∧ groupChildPx 288 2 (.pct 25 1) = 72 ∧ groupChildPx 288 2 .auto = 144 := by
  decide
/-- the hypotheses of `C10_nesting` can be met -/
example : (0 : Int) ≤ blockW ⟨600, none, .sec ⟨0, 0, 0, 0⟩ []⟩ ∧ Item.Sane (.col ⟨.pct 40 1, ⟨0, 0, 0, 0⟩, .dividerP 25 25 75 2⟩) := by
  refine ⟨by decide, ?_⟩
  simp [Item.Sane, ColW.Sane, Leaf.Sane]

/-- the horizontal values `ParseHorizontalSpacing` picks out of a padding shorthand are CSS's left and right, for one to four
    values (missing values are taken from the opposite side); anything else is no shorthand.  The Model of the function
    (`Lengths.hspacing`: `strings.Fields`, this choice, `ParsePixel` on plain decimals) is tied to the code by correspondence -/
theorem C10_horizontal_pair_is_css {α : Type} (vs : List α) :
    Gomjml.Lengths.hsel vs = (Gomjml.Lengths.cssSides vs).map (fun s => (s.2.2.2, s.2.1)) := Gomjml.Lengths.hsel_css vs

/-- **how the values of a shorthand are separated does not matter**: values made of plain bytes (digits, points, signs, unit
    letters, `%`), any ASCII white space in front of the first, any non-empty ASCII white space between two, any behind the
    last — `strings.Fields` returns exactly the values.  (The width documents write the same lengths with a tab, two blanks,
    blanks around; this is why they must give the same widths.) -/
theorem C10_shorthand_spelling (ws : List (List UInt8 × List UInt8)) (lead : List UInt8)
    (hl : ∀ b ∈ lead, Gomjml.Lengths.isAsciiSp b = true)
    (hw : ∀ p ∈ ws, p.1 ≠ [] ∧ (∀ b ∈ p.1, Gomjml.Lengths.plain b = true) ∧ (∀ b ∈ p.2, Gomjml.Lengths.isAsciiSp b = true))
    (hs : ∀ i, i + 1 < ws.length → ∀ p, ws[i]? = some p → p.2 ≠ []) :
    Gomjml.Lengths.fields (lead ++ ws.flatMap (fun p => p.1 ++ p.2)) = ws.map (·.1) :=
  Gomjml.Lengths.fields_words ws lead hl hw hs

/-- **where an authored length becomes a number** (regenerated): every call, outside package `styles`, of a `styles` length
    parser or of a `strconv` / `Sscan` number parser, by function and number of calls.  The width computations of section,
    wrapper, hero and column read the padding shorthand through `ParseHorizontalSpacing` (one to four values); a width computed
    through a parser of its own, which understands fewer spellings, is a new row here -/
theorem C10_length_sites :
    Gomjml.Gen.LengthSites.lengthSites = [
      ("mjml/components.(*BaseComponent).GetAttributeAsPixel", "styles.ParsePixel", "1"),
      ("mjml/components.(*BaseComponent).GetAttributeAsSpacing", "styles.ParseSpacing", "1"),
      ("mjml/components.(*MJBodyComponent).GetEffectiveWidth", "styles.ParseSize", "1"),
      ("mjml/components.(*MJBodyComponent).GetEffectiveWidthString", "styles.ParseSize", "1"),
      ("mjml/components.(*MJButtonComponent).calculateInnerWidth", "strconv.Atoi", "2"),
      ("mjml/components.(*MJColumnComponent).GetParsedWidth", "styles.ParseSize", "1"),
      ("mjml/components.(*MJColumnComponent).calculateEffectiveContentWidth", "strconv.Atoi", "1"),
      ("mjml/components.(*MJColumnComponent).calculateEffectiveContentWidth", "styles.ParseBorderWidth", "3"),
      ("mjml/components.(*MJColumnComponent).calculateEffectiveContentWidth", "styles.ParseHorizontalSpacing", "1"),
      ("mjml/components.(*MJColumnComponent).calculateEffectiveContentWidth", "styles.ParsePixel", "2"),
      ("mjml/components.(*MJColumnComponent).parsePaddingLeftRight", "strconv.Atoi", "2"),
      ("mjml/components.(*MJDividerComponent).Render", "styles.ParsePixel", "2"),
      ("mjml/components.(*MJDividerComponent).Render", "styles.ParseSize", "1"),
      ("mjml/components.(*MJDividerComponent).parseDividerPaddingLeftRight", "styles.ParsePixel", "1"),
      ("mjml/components.(*MJGroupComponent).GetWidthClass", "fmt.Sscanf", "2"),
      ("mjml/components.(*MJGroupComponent).Render", "fmt.Sscanf", "2"),
      ("mjml/components.(*MJHeroComponent).Render", "styles.ParseHorizontalSpacing", "1"),
      ("mjml/components.(*MJHeroComponent).Render", "styles.ParsePixel", "2"),
      ("mjml/components.(*MJHeroComponent).calculateEffectiveHeight", "fmt.Sscanf", "4"),
      ("mjml/components.(*MJImageComponent).Render", "styles.ParsePixel", "2"),
      ("mjml/components.(*MJImageComponent).calculateDefaultWidth", "styles.ParseBorderWidth", "1"),
      ("mjml/components.(*MJImageComponent).calculateDefaultWidth", "styles.ParsePixel", "3"),
      ("mjml/components.(*MJImageComponent).calculateDefaultWidth", "styles.ParseSpacing", "1"),
      ("mjml/components.(*MJSectionComponent).getInnerContentWidth", "styles.ParseBorderWidth", "3"),
      ("mjml/components.(*MJSectionComponent).getInnerContentWidth", "styles.ParseHorizontalSpacing", "1"),
      ("mjml/components.(*MJSectionComponent).getInnerContentWidth", "styles.ParsePixel", "2"),
      ("mjml/components.(*MJWrapperComponent).getBorderLRWidths", "styles.ParseBorderWidth", "3"),
      ("mjml/components.(*MJWrapperComponent).getEffectiveWidth", "styles.ParseHorizontalSpacing", "3"),
      ("mjml/components.(*MJWrapperComponent).getEffectiveWidth", "styles.ParsePixel", "2"),
      ("mjml/components.computeVMLPosition", "strconv.ParseFloat", "1")] := rfl

/-- where `ParseSpacing` accepts a shorthand (one, two or four values) its four sides are CSS's -/
theorem C10_spacing_is_css (s : List Gomjml.Amp.B) (t r b l : Gomjml.Lengths.Dec) (h : Gomjml.Lengths.spacing s = .ok t r b l) :
    ∃ vs, (Gomjml.Lengths.fields s).map Gomjml.Lengths.parsePixel = vs.map some ∧ Gomjml.Lengths.cssSides vs = some (t, r, b, l) :=
  Gomjml.Lengths.spacing_css s t r b l h

/-- **one horizontal rule for every component**: the image computes its horizontal padding its own way (`ParseSpacing`, and
    the three-value form by hand), every other component through `ParseHorizontalSpacing`; on every shorthand whose values are
    numbers of the modelled grammar the two give the same pair, CSS's left and right, and both give nothing for a count other
    than one to four -/
theorem C10_image_shorthand_is_horizontal (s : List Gomjml.Amp.B) (vs : List Gomjml.Lengths.Dec) (hs : s ≠ [])
    (hv : (Gomjml.Lengths.fields s).map Gomjml.Lengths.parsePixel = vs.map some) :
    Gomjml.Lengths.hspacing s = Gomjml.Lengths.hsel vs ∧
    Gomjml.Lengths.imageShorthand s =
      (match Gomjml.Lengths.hsel vs with | some (l, r) => Gomjml.Lengths.HRes.pair l r | none => Gomjml.Lengths.HRes.zero) :=
  Gomjml.Lengths.image_shorthand_is_horizontal s vs hs hv

/-- the Model of `getPixelWidthString` over its regenerated case table: a listed width returns its constant, any other the
    decimal number followed by `px` -/
def pixelWidthString (cases : List (String × String × String)) (n : Int) : String :=
  match cases.find? (fun r => r.1 = toString n) with
  | some r => r.2.1
  | none => toString n ++ "px"

/-- the regenerated facts: every kept string is its case value followed by `px`, and is a constant or a package variable
    that no statement assigns to after its initialisation; the switch is over the width and the default branch writes
    `strconv.Itoa` of it and `px` -/
theorem C10_pixel_width_cases :
    (∀ r ∈ Gomjml.Gen.Misc.pixelWidthCases, r.2.1 = r.1 ++ "px" ∧
      (r.2.2 = "const" ∨ (r.2.2 ≠ "other" ∧ ∀ w ∈ Gomjml.Gen.PkgVars.pkgVarWriters, w.1 ≠ r.2.2))) ∧
    Gomjml.Gen.Misc.pixelWidthDefault =
      [("tag", "widthPx"), ("write", "strconv.Itoa(widthPx)"), ("write", "\"px\""), ("return", "b.String()")] :=
  ⟨by decide +kernel, rfl⟩

/-- **every pixel width is written as the number it is**: for every width, listed or not, the string is the decimal number
    followed by `px` (a kept string that does not spell its own case — `width150px = "105px"` — breaks this) -/
theorem C10_pixel_width_string (n : Int) :
    pixelWidthString Gomjml.Gen.Misc.pixelWidthCases n = toString n ++ "px" := by
  unfold pixelWidthString
  split
  · rename_i r h
    have hp := List.find?_some h
    simp only [decide_eq_true_eq] at hp
    rw [(C10_pixel_width_cases.1 r (List.mem_of_find?_eq_some h)).1, hp]
  · rfl

/-- a listed and an unlisted width -/
example : pixelWidthString Gomjml.Gen.Misc.pixelWidthCases 600 = "600px" ∧
    pixelWidthString Gomjml.Gen.Misc.pixelWidthCases 601 = "601px" := by decide

end Gomjml.Props.C10
