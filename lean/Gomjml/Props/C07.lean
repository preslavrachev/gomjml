import Gomjml.Core.Frame
import Gomjml.Gen.PkgVars
import Gomjml.Gen.Census
/-! # C07 — concurrent compilations are isolated from each other -/
namespace Gomjml.Props.C07
open Gomjml.Frame

/-- run-time writers of package-level state, cache machinery aside (its safety is C13–C15): everything `factx` finds that is
    neither inside a `sync.Once` nor in an `init`; rows: (variable, function, guard) -/
def sharedWriters : List (String × String × String) :=
  Gomjml.Gen.PkgVars.pkgVarWriters.filter (fun r =>
    r.2.2 != "once" && r.2.2 != "init" && r.1 != "mjml.cleanupCancel" && r.1 != "mjml.sfCalls")

/-- Regenerated fact: the only package-level variable with a run-time writer is the old process-wide attribute store, written
    by `globals.SetGlobalAttributes` alone — which nothing in the module calls any more (every compilation
    carries its own store): no location shared between compilations is written while compiling.  Any new writer, or any new
    caller of the setter, breaks this theorem. -/
theorem C07_no_shared_writes :
    sharedWriters = [("mjml/globals.instance", "mjml/globals.SetGlobalAttributes", "plain")] ∧
    Gomjml.Gen.Census.census.filter (fun r => r.2.1 == "globals.SetGlobalAttributes") = [] := ⟨rfl, rfl⟩

/-- Regenerated fact: **every package-level variable of a kind that can hold structured state** (kinds `basic` — the cache's
    TTL, interval and flag among them, written at run time — and `regexp` are left out): the cache and single-flight machinery (C13–C15), tables filled once (`sync.Once`, `init`) and read
    afterwards, the test-mode id counters, the parser hook, the old attribute store.  A pool, a memo table, a lazily filled
    cache added anywhere in the rendering code is a new row here -/
theorem C07_stateful_package_variables :
    Gomjml.Gen.PkgVars.pkgVars.filter (fun r => r.2 != "basic" && r.2 != "regexp") = [
      ("mjml.ParseMJML", "func"),
      ("mjml.astCache", "sync"),
      ("mjml.astCacheCleanupOnce", "sync"),
      ("mjml.astCacheTTLOnce", "sync"),
      ("mjml.cacheCleanupMutex", "sync"),
      ("mjml.cacheConfigMutex", "sync"),
      ("mjml.cleanupCancel", "func"),
      ("mjml.hashSeed", "struct"),
      ("mjml.sfCalls", "map"),
      ("mjml.sfMutex", "sync"),
      ("mjml.templateHashSeedOnce", "sync"),
      ("mjml/components.allowedAttributeSets", "map"),
      ("mjml/components.allowedAttributes", "map"),
      ("mjml/components.allowedAttributesErr", "interface"),
      ("mjml/components.allowedAttributesOnce", "sync"),
      ("mjml/components.allowedCSSAttributesJSON", "slice"),
      ("mjml/components.baseSocialNetworkDefaults", "map"),
      ("mjml/components.carouselTestIDs", "slice"),
      ("mjml/components.carouselTestIndex", "sync"),
      ("mjml/components.globalAllowedAttributes", "map"),
      ("mjml/components.navbarTestIDs", "slice"),
      ("mjml/components.navbarTestIndex", "sync"),
      ("mjml/components.socialElementInheritableAttributes", "map"),
      ("mjml/components.voidTagsWithoutClosingSlash", "map"),
      ("mjml/fonts.GoogleFontsMapping", "map"),
      ("mjml/globals.instance", "pointer"),
      ("mjml/testmode.enabled", "sync"),
      ("mjml/testmode.mu", "sync"),
      ("parser.charDataEscaper", "pointer"),
      ("parser.htmlVoidElements", "map"),
      ("parser.namedHTMLEntities", "map")] := rfl

/-- **C07 (isolation), proved for every schedule**: if no thread writes a shared location, every value a thread reads from
    shared memory is the initial contents, whatever the others do -/
theorem C07_isolated (R : Loc → Prop) (m0 : Loc → Val) (σ : List Nat) (s : Sys)
    (hw : ∀ t, writesOutside R (s.progs t)) (hm : ∀ l, R l → s.mem l = m0 l)
    (ht : ∀ t l v, (l, v) ∈ s.trace t → R l → v = m0 l) :
    ∀ t l v, (l, v) ∈ (run s σ).trace t → R l → v = m0 l :=
  (frame R m0 σ s hw hm ht).2

/-- why the hypothesis matters (the code before 72a1ca4, finding C07-F1): with one location written by every compilation
    there is a 3-step schedule in which compilation 1 reads the attributes of compilation 2 -/
def twoRenders : Sys :=
  { mem := fun _ => 0,
    progs := fun t => if t = 1 then [.write 0 11, .read 0] else if t = 2 then [.write 0 22, .read 0] else [],
    trace := fun _ => [] }
example : (run twoRenders [1, 2, 1]).trace 1 = [(0, 22)] := by decide
/-- alone, compilation 1 reads its own attributes -/
example : (run twoRenders [1, 1]).trace 1 = [(0, 11)] := by decide

end Gomjml.Props.C07
