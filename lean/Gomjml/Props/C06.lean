import Gomjml.Core.WriterFault
import Gomjml.Core.Api
import Gomjml.Gen.Writers
import Gomjml.Gen.Census
/-! # C06 — compilation is total and error-faithful

(a) writer faults: proved for the calculus `WriterFault.Prog`, instantiated by the regenerated table of every write /
    writer-forwarding call of the rendering packages; (b) result trichotomy on the API model; (c) panic census.
    What is not provable here (panics inside encoding/xml, regexp, strconv; wall-clock bounds) is supported by
    fuzzing in the harness. -/
namespace Gomjml.Props.C06
open Gomjml.WriterFault

/-- the error-handling shape `factx` found at a site, as a program of the calculus -/
def shapeProg (kind shape : String) : Prog :=
  if kind == "call-infallible" then .skip                 -- target is a local strings.Builder / bytes.Buffer: cannot fail
  else if shape == "checked" || shape == "checked-cleanup" || shape == "returned" then .write "·"
  else if shape == "swallowed" || shape == "if-other-cond" then .swallow (.write "·")
  else .writeUnchecked "·"                                  -- unchecked, discarded, replaced, assigned-unchecked, other …

/-- the sites in sequence -/
def seqAll : List Prog → Prog
  | [] => .skip
  | p :: r => .seq p (seqAll r)

theorem disciplined_seqAll (ps : List Prog) : Disciplined (seqAll ps) = ps.all Disciplined := by
  induction ps with
  | nil => rfl
  | cons p r ih => simp [seqAll, Disciplined, ih]

/-- Regenerated fact: every site in the rendering packages that writes to, or forwards, a caller-supplied writer
    binds the error and returns that same error variable (or returns the call directly).  Rows: (function, kind, target,
    shape, number of like sites). -/
theorem C06a_all_sites_disciplined :
    (Gomjml.Gen.Writers.writerSites.map (fun s => shapeProg s.2.1 s.2.2.2.1)).all Disciplined = true := by
  decide +kernel

/-- hence the rows in sequence are a disciplined program … -/
theorem C06a_renderer_disciplined :
    Disciplined (seqAll (Gomjml.Gen.Writers.writerSites.map (fun s => shapeProg s.2.1 s.2.2.2.1))) = true := by
  rw [disciplined_seqAll]; exact C06a_all_sites_disciplined

/-- … and for a disciplined program, **for every index k at which the k-th write may fail**: either the failure is never
    reached and the run is the fault-free run, or the injected error is returned and what was written is a prefix of the
    fault-free output. -/
theorem C06a_fault (env : Nat → Bool) (k : Nat) (p : Prog) (w : W) (h : Disciplined p = true) :
    ((run env (some k) p w).2 = false ∧ (run env (some k) p w).1 = (run env none p w).1) ∨
    ((run env (some k) p w).2 = true ∧ (run env (some k) p w).1.out <+: (run env none p w).1.out) :=
  run_fault env k p w h

/-- the full statement needs the discipline: one unchecked write and the error is lost -/
example : (run (fun _ => true) (some 1) (.seq (.writeUnchecked "a") (.write "b")) ⟨[], 0⟩).2 = false := by decide
/-- non-vacuity -/
example : Disciplined (.seq (.write "a") (.ite 0 (.write "b") .skip)) = true := by decide

/-- (b) one of: HTML and no error; HTML with a validation error; no HTML and an ordinary error -/
theorem C06b_result_shapes (w : Gomjml.Api.World) (s : Gomjml.Api.St) (c : Gomjml.Api.Call) (h : ∀ k, c ≠ .renderTree k) :
    (∃ html, (Gomjml.Api.step w s c).2 = .ok html) ∨ (∃ html e, (Gomjml.Api.step w s c).2 = .okValidation html e) ∨
    (∃ e, (Gomjml.Api.step w s c).2 = .fail e) := by
  rw [Api.step_eq_fresh w s c h]
  exact Api.Res.shapes _ (Api.step_not_tree w s c h).1

/-- (c) explicit `panic` calls in non-test code: the embedded-JSON loader (cannot fail for the embedded file) and the
    test-mode controller (never reached from the public entry points); `recover` is used nowhere -/
theorem C06c_panic_census :
    ∀ r ∈ Gomjml.Gen.Census.census, (r.1 = "panic" ∨ r.1 = "recover") →
      r ∈ [("panic", "panic", "mjml/components.ensureAllowedAttributesLoaded"),
           ("panic", "panic", "mjml/testmode.(*Controller).Disable"),
           ("panic", "panic", "mjml/testmode.(*Controller).Enable")] := by decide +kernel

end Gomjml.Props.C06
