import Gomjml.Core.Expand
/-! Skeleton models of the content components (the "leaves" of the layout): what each `Render` writes, with `mj-raw` between
the children of social / navbar / accordion / accordion element, at the level of tags, Outlook markers (`co` / `cc`), not-Outlook
markers (`nco` / `ncc`), author content (`.t`) and generated text (`fill`).  Control flow follows the Go code: the same loops over
children, the same index tests (first / last element), the same option tests (href → `<a>` wrapper, vertical mode, hamburger,
icon position, thumbnails).  Tied to the implementation by skeleton correspondence on every generated document (`hx C02` /
`C03`, driver `layout`).  Inertness and the content count are proved in `LeavesProofs`. -/
namespace Gomjml.Leaves
open Gomjml.Spec Gomjml.Expand

def o (n : String) : GTok := .o false n
def c (n : String) : GTok := .c false n
def v (n : String) : GTok := .v false n
/-- text the component generates itself (`&nbsp;`, `&#8202;`, the hamburger glyphs): shown as text by a lexer, but not author content -/
def fill : GTok := .v false "#text"
def t : GTok := .t ""

/-- number of author-content tokens; the predicate is `Expand.isT` (`cntT_cons`) -/
def cntT (ts : List GTok) : Nat := ts.countP (fun x => match x with | .t _ => true | _ => false)
@[simp] theorem cntT_append (a b : List GTok) : cntT (a ++ b) = cntT a + cntT b := by simp [cntT, List.countP_append]
@[simp] theorem cntT_nil : cntT [] = 0 := rfl
@[simp] theorem cntT_cons (x : GTok) (r : List GTok) : cntT (x :: r) = cntT r + if isT x then 1 else 0 := List.countP_cons ..

def ite' (b : Bool) (x : List GTok) : List GTok := if b then x else []

/-- `text.go`: `<tr><td><div>` inner HTML (if any) `</div></td></tr>` -/
def textToks (content : Bool) : List GTok := [o "tr", o "td", o "div"] ++ ite' content [t] ++ [c "div", c "td", c "tr"]

/-- `button.go`: the content element is `<a>` with an href, `<p>` without; a button without content gets the generated label
    "Button" -/
def buttonToks (href content : Bool) : List GTok :=
  let tag := if href then "a" else "p"
  [o "tr", o "td", o "table", o "tbody", o "tr", o "td", o tag] ++ (if content then [t] else [fill]) ++
  [c tag, c "td", c "tr", c "tbody", c "table", c "td", c "tr"]

/-- `image.go`: optional link around the `<img>` -/
def imageToks (href : Bool) : List GTok :=
  [o "tr", o "td", o "table", o "tbody", o "tr", o "td"] ++ (if href then [o "a", v "img", c "a"] else [v "img"]) ++
  [c "td", c "tr", c "tbody", c "table", c "td", c "tr"]

/-- `divider.go`: the `<p>` rule for standard clients, a one-cell table for Outlook -/
def dividerToks : List GTok :=
  [o "tr", o "td", o "p", c "p", .co, o "table", o "tr", o "td", fill, c "td", c "tr", c "table", .cc, c "td", c "tr"]

/-- `spacer.go` -/
def spacerToks : List GTok := [o "tr", o "td", o "div", fill, c "div", c "td", c "tr"]

def tableRow : List GTok := [o "tr", o "td", t, c "td", c "tr"]
/-- `table.go`: the author's rows inside the component's `<table>` (modelled: `rows` one-cell rows, or bare text) -/
def tableToks (rows : Nat) (text : Bool) : List GTok :=
  [o "tr", o "td", o "table"] ++ (if rows = 0 then ite' text [t] else (List.replicate rows tableRow).flatten) ++
  [c "table", c "td", c "tr"]

/-- `mj-raw` between the children of a component: written where it stands (`<i>content</i>` in the generated documents) -/
def rawG (blank : Bool) : List GTok := if blank then [] else [o "i", t, c "i"]

structure SocEl where
  href : Bool
  text : Bool
deriving Repr, DecidableEq

inductive SocChild
  | el (e : SocEl)
  | raw (blank : Bool)
deriving Repr, DecidableEq

def SocChild.isEl : SocChild → Bool
  | .el _ => true
  | _ => false

/-- `MJSocialElementComponent.Render`, horizontal mode, called with `wrapMSO = false` by the parent.  The icon cell is written
    whether or not the element has an icon (an `<img>` without src), so the element never disappears with its text. -/
def socElH (e : SocEl) : List GTok :=
  [o "table", o "tbody", o "tr", o "td", o "table", o "tbody", o "tr", o "td"] ++
  (if e.href then [o "a", v "img", c "a"] else [v "img"]) ++
  [c "td", c "tr", c "tbody", c "table", c "td"] ++
  ite' e.text ([o "td", o (if e.href then "a" else "span"), t, c (if e.href then "a" else "span"), c "td"]) ++
  [c "tr", c "tbody", c "table"]

/-- … vertical mode: one row per element; the element's link is kept around the icon and around the text -/
def socElV (e : SocEl) : List GTok :=
  [o "tr", o "td", o "table", o "tbody", o "tr", o "td"] ++
  (if e.href then [o "a", v "img", c "a"] else [v "img"]) ++
  [c "td", c "tr", c "tbody", c "table", c "td"] ++
  ite' e.text [o "td", o (if e.href then "a" else "span"), t, c (if e.href then "a" else "span"), c "td"] ++ [c "tr"]

/-- `social.go`, between two elements: `<!--[if mso | IE]></td><td><![endif]-->` -/
def socSep : List GTok := [.co, c "td", o "td", .cc]

/-- the horizontal loop of `MJSocialComponent.Render` over the children in document order: raw content is written where it
    stands; a separator conditional follows every element but the last (`rem` = elements still to come, this one included) -/
def socLoop : Nat → List SocChild → List GTok
  | _, [] => []
  | rem, .raw b :: r => rawG b ++ socLoop rem r
  | rem, .el e :: r => socElH e ++ (if rem > 1 then socSep else []) ++ socLoop (rem - 1) r

def socKidV : SocChild → List GTok
  | .el e => socElV e
  | .raw b => rawG b

def socialToks (vertical : Bool) (kids : List SocChild) : List GTok :=
  let n := kids.countP SocChild.isEl
  [o "tr", o "td"] ++
  (if vertical then [o "table", o "tbody"] ++ kids.flatMap socKidV ++ [c "tbody", c "table"]
   else (if n > 0 then [.co, o "table", o "tr", o "td", .cc] else [.co, o "table", o "tr", .cc]) ++ socLoop n kids ++
        (if n > 0 then [.co, c "td", c "tr", c "table", .cc] else [.co, c "tr", c "table", .cc])) ++
  [c "td", c "tr"]

inductive NavChild
  | link (content : Bool)
  | raw (blank : Bool)
deriving Repr, DecidableEq

def NavChild.isLink : NavChild → Bool
  | .link _ => true
  | _ => false

def navLink (content : Bool) : List GTok := [o "a"] ++ ite' content [t] ++ [c "a"]

/-- `renderInlineLinks`, the loop over the children in document order.  `op` = the conditional that opened the Outlook table is
    still open (true only in front of the first child); `first` = no link written yet.  The first link's cell continues the
    open conditional (or opens one, if raw content closed it); every further link closes the previous cell and opens its own;
    raw content is written where it stands, outside any conditional. -/
def navLoop : Bool → Bool → List NavChild → List GTok
  | _, _, [] => []
  | op, first, .raw b :: r => (if op then [.cc] else []) ++ rawG b ++ navLoop false first r
  | op, first, .link cn :: r =>
    (if first then (if op then [] else [.co]) ++ [o "td", .cc] else [.co, c "td", o "td", .cc]) ++ navLink cn ++ navLoop false false r

/-- `renderHamburgerToggle`, `renderHamburgerLabel` -/
def hamburgerToks : List GTok :=
  [.nco, v "input", .ncc, o "div", o "label", o "span", fill, c "span", o "span", fill, c "span", c "label", c "div"]

/-- the closing (`navbar.go:291-300`): behind a link its cell is closed; behind raw content only, the conditional is opened
    again; without children it is still open -/
def navbarToks (hamburger : Bool) (kids : List NavChild) : List GTok :=
  [o "tr", o "td"] ++ ite' hamburger hamburgerToks ++
  [o "div", .co, o "table", o "tr"] ++ navLoop true true kids ++
  (if kids.any NavChild.isLink then [.co, c "td"] else if kids.isEmpty then [] else [.co]) ++
  [c "tr", c "table", .cc, c "div", c "td", c "tr"]

/-- the children of an `mj-accordion-element`, rendered in document order -/
inductive AccPart
  | title (content : Bool)
  | text (content : Bool)
  | raw (blank : Bool)
deriving Repr, DecidableEq

structure AccEl where
  iconLeft : Bool          -- icon-position="left"
  parts : List AccPart
deriving Repr, DecidableEq

inductive AccChild
  | el (e : AccEl)
  | raw (blank : Bool)
deriving Repr, DecidableEq

/-- `renderIconCell` -/
def accIcon : List GTok := [.nco, o "td", v "img", v "img", c "td", .ncc]

def accPartToks (iconLeft : Bool) : AccPart → List GTok
  | .title content =>
    [o "div", o "table", o "tbody", o "tr"] ++ ite' iconLeft accIcon ++ [o "td"] ++ ite' content [t] ++ [c "td"] ++
    ite' (!iconLeft) accIcon ++ [c "tr", c "tbody", c "table", c "div"]
  | .text content => [o "div", o "table", o "tbody", o "tr", o "td"] ++ ite' content [t] ++ [c "td", c "tr", c "tbody", c "table", c "div"]
  | .raw b => rawG b

def accElToks (e : AccEl) : List GTok :=
  [o "tr", o "td", o "label", .nco, v "input", .ncc, o "div"] ++ e.parts.flatMap (accPartToks e.iconLeft) ++
  [c "div", c "label", c "td", c "tr"]

def accKidToks : AccChild → List GTok
  | .el e => accElToks e
  | .raw b => rawG b

def accordionToks (kids : List AccChild) : List GTok :=
  [o "tr", o "td", o "table", o "tbody"] ++ kids.flatMap accKidToks ++ [c "tbody", c "table", c "td", c "tr"]

/-! mj-carousel has at least one image: without images the component returns an error -/

/-- `renderThumbnails` -/
def carThumb : List GTok := [o "a", o "label", v "img", c "label", c "a"]
/-- `renderPreviousIcons` / `renderNextIcons` -/
def carIcon : List GTok := [o "label", v "img", c "label"]
/-- `renderCarouselImageContent` -/
def carImage (href : Bool) : List GTok := [o "div"] ++ (if href then [o "a", v "img", c "a"] else [v "img"]) ++ [c "div"]

def carouselToks (thumbs : Bool) (first : Bool) (rest : List Bool) : List GTok :=
  let imgs := first :: rest
  let n := imgs.length
  [o "tr", o "td", .nco, o "div"] ++ (List.replicate n [v "input"]).flatten ++ [o "div"] ++
  ite' thumbs (List.replicate n carThumb).flatten ++
  [o "table", o "tbody", o "tr", o "td", o "div"] ++ (List.replicate n carIcon).flatten ++ [c "div", c "td"] ++
  [o "td", o "div"] ++ imgs.flatMap carImage ++ [c "div", c "td"] ++
  [o "td", o "div"] ++ (List.replicate n carIcon).flatten ++ [c "div", c "td"] ++
  [c "tr", c "tbody", c "table", c "div", c "div", .ncc] ++
  [.co] ++ carImage first ++ [.cc, c "td", c "tr"]

inductive LeafM
  | keep                                      -- the slot keeps its plain content token (mj-text / mj-raw content, section text)
  | text (content : Bool)
  | button (href content : Bool)
  | image (href : Bool)
  | divider
  | spacer
  | table (rows : Nat) (text : Bool)
  | social (vertical : Bool) (kids : List SocChild)
  | navbar (hamburger : Bool) (kids : List NavChild)
  | accordion (kids : List AccChild)
  | carousel (thumbs : Bool) (first : Bool) (rest : List Bool)
deriving Repr

def LeafM.toks : LeafM → List GTok
  | .keep => [t]
  | .text cn => textToks cn
  | .button h cn => buttonToks h cn
  | .image h => imageToks h
  | .divider => dividerToks
  | .spacer => spacerToks
  | .table r tx => tableToks r tx
  | .social vm els => socialToks vm els
  | .navbar hb ls => navbarToks hb ls
  | .accordion els => accordionToks els
  | .carousel th f r => carouselToks th f r

def b2n (b : Bool) : Nat := if b then 1 else 0

def rawSlots (blank : Bool) : Nat := if blank then 0 else 1
def SocChild.slots : SocChild → Nat
  | .el e => b2n e.text
  | .raw b => rawSlots b
def NavChild.slots : NavChild → Nat
  | .link cn => b2n cn
  | .raw b => rawSlots b
def AccPart.slots : AccPart → Nat
  | .title cn => b2n cn
  | .text cn => b2n cn
  | .raw b => rawSlots b
def AccChild.slots : AccChild → Nat
  | .el e => (e.parts.map AccPart.slots).sum
  | .raw b => rawSlots b

def LeafM.slots : LeafM → Nat
  | .keep => 1
  | .text cn => b2n cn
  | .button _ cn => b2n cn
  | .image _ => 0
  | .divider => 0
  | .spacer => 0
  | .table r tx => if r = 0 then b2n tx else r
  | .social _ kids => (kids.map SocChild.slots).sum
  | .navbar _ kids => (kids.map NavChild.slots).sum
  | .accordion kids => (kids.map AccChild.slots).sum
  | .carousel _ _ _ => 0

end Gomjml.Leaves
