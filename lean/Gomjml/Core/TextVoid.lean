import Gomjml.Core.Lines
import Gomjml.Core.TextFlow
/-! mj-text, the void-tag normaliser behind the content flow (`normalizeVoidHTMLTags`, `trimSpacesAroundBR` in
    `mjml/components/text.go`; pattern `(?i)<(area|…|wbr)\b([^>]*)/>`): a self-closed void tag gets one blank in front of `/>`,
    `<br …/>` loses the slash, blanks next to a `<br>` go.  The matcher is `Lines.matchFold`.  Tied to the implementation by the
    correspondence run `textvoid` of `hx C04`. -/
namespace Gomjml.TextVoid
open Gomjml.Amp Gomjml.Passes Gomjml.Lines

/-- the alternation of the pattern, in its order -/
def names : List (List B) := [
  [97, 114, 101, 97], [98, 97, 115, 101], [98, 114], [99, 111, 108], [101, 109, 98, 101, 100], [104, 114], [105, 109, 103],
  [105, 110, 112, 117, 116], [108, 105, 110, 107], [109, 101, 116, 97], [112, 97, 114, 97, 109], [115, 111, 117, 114, 99, 101],
  [116, 114, 97, 99, 107], [119, 98, 114]]

/-- the one key of `voidTagsWithoutClosingSlash` (text.go:23); Go looks the lower-cased name up, and `br` has no `k` / `s` fold -/
def brName : List B := [98, 114]

/-- ASCII word byte (`\b` of RE2 is the ASCII word boundary) -/
def wordB (b : B) : Bool := (b ≥ 48 && b ≤ 57) || (b ≥ 65 && b ≤ 90) || (b ≥ 97 && b ≤ 122) || b == 95

/-- not so when the name ends in the Kelvin sign -/
def lastWord (c : List B) : Bool :=
  match c.getLast? with
  | some l => wordB l
  | none => false

/-- a match of `(names)\b([^>]*)/>` behind a `<`: (name, matched bytes without `<` and `/>`, what follows); the greedy `[^>]*`
    matches what the lazy one of `Lines.voidAt` does, `/>` can only stand at the first `>` -/
def voidAtB (rest : List B) : Option (List B × List B × List B) :=
  names.findSome? fun n =>
    match matchFold n rest with
    | none => none
    | some (c, rem) =>
      match rem with
      | [] => none
      | x :: _ =>
        -- `\b`: exactly one of the two neighbours is an ASCII word byte (a name that ends in the Kelvin sign has no
        -- boundary behind it)
        if wordB x == lastWord c then none else
        match firstGt rem with
        | none => none
        | some g =>
          if g = 0 then none else
          match rem.drop (g - 1) with
          | 47 :: 62 :: after => some (n, c ++ rem.take (g - 1), after)
          | _ => none

/-- `strings.TrimRight(s, " \n\r\t")` -/
def trimRightWs (s : List B) : List B := (s.reverse.dropWhile Gomjml.TextFlow.isWs).reverse

/-- the callback of `ReplaceAllStringFunc` (text.go:268–283) over the matches, left to right -/
def normF : Nat → List B → List B
  | 0, s => s
  | _, [] => []
  | fuel + 1, b :: rest =>
    if b == 60 then
      match voidAtB rest with
      | some (n, pre, after) => trimRightWs (60 :: pre) ++ (if n == brName then [62] else [32, 47, 62]) ++ normF fuel after
      | none => b :: normF fuel rest
    else b :: normF fuel rest

/-- `strings.Contains` -/
def containsSub (needle : List B) : List B → Bool
  | [] => needle.isEmpty
  | b :: r => needle.isPrefixOf (b :: r) || containsSub needle r

def brLow : List B := [60, 98, 114]                 -- "<br"
def brTag : List B := [60, 98, 114, 62]             -- "<br>"
def brTagUp : List B := [60, 66, 82, 62]            -- "<BR>"

/-- `trimSpacesAroundBR` -/
def trimBR (s : List B) : List B :=
  replaceAll (brTagUp ++ [32]) brTagUp (replaceAll (32 :: brTagUp) brTagUp (replaceAll (brTag ++ [32]) brTag (replaceAll (32 :: brTag) brTag s)))

/-- `normalizeVoidHTMLTags` -/
def normalize (s : List B) : List B :=
  let n := normF (s.length + 1) s
  if containsSub brLow n then trimBR n else n

theorem normF_no_lt : ∀ (fuel : Nat) (s : List B), (∀ b ∈ s, b ≠ 60) → normF fuel s = s := by
  intro fuel s h
  fun_induction normF fuel s
  case case1 | case2 => rfl
  -- at a `<`
  case case3 b _ hb _ _ _ _ _ | case4 b _ hb _ _ => exact absurd (eq_of_beq hb) (h b List.mem_cons_self)
  case case5 ih => rw [ih fun x hx => h x (List.mem_cons_of_mem _ hx)]

/-- `TextFlow.ink` without the slashes -/
def inkS (s : List B) : List B := s.filter (fun b => !(Gomjml.TextFlow.isWs b || b == 47))

theorem voidAtB_split {rest n pre after : List B} (h : voidAtB rest = some (n, pre, after)) : rest = pre ++ [47, 62] ++ after := by
  unfold voidAtB at h
  obtain ⟨nm, _, hn⟩ := List.exists_of_findSome?_eq_some h
  -- every branch of `voidAtB` but the innermost returns `none`
  split at hn
  · cases hn
  · rename_i c rem hmf
    split at hn
    · cases hn
    · split at hn
      · cases hn
      · split at hn
        · cases hn
        · split at hn
          · cases hn
          · split at hn
            · rename_i hdrop
              cases hn
              exact (matchFold_split _ rest c _ hmf).trans (cut_slash_gt c hdrop)
            · cases hn

/-- **the tag scan rewrites spelling only** -/
theorem normF_inkS (fuel : Nat) (s : List B) : inkS (normF fuel s) = inkS s := by
  fun_induction normF fuel s
  case case1 | case2 => rfl
  -- as in the parser's own normaliser; here all trailing white space goes, `br` loses its slash
  case case3 fuel b rest hb n pre after hv ih =>
    rw [eq_of_beq hb, voidAtB_split hv]
    exact voidStep_filter (fun b hb => by simp [hb]) (by split <;> decide) ih
  case case4 ih | case5 ih => exact filter_cons_congr _ ih

/-- **the whole normaliser rewrites spelling only**: tags are re-spelt, blanks next to `<br>` go — every byte that is
    neither white space nor a slash comes out, once, in order -/
theorem normalize_inkS (s : List B) : inkS (normalize s) = inkS s := by
  unfold normalize
  -- `let`
  simp only
  split
  · unfold trimBR
    unfold inkS
    rw [replaceAll_filter (by decide), replaceAll_filter (by decide), replaceAll_filter (by decide), replaceAll_filter (by decide)]
    exact normF_inkS _ s
  · exact normF_inkS _ s

end Gomjml.TextVoid
