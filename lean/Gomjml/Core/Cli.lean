namespace Gomjml.Cli
/-! Model of `gomjml compile` (`cmd/gomjml/command/compile.go`): decision logic stated outright. -/

/-- what the library returned for the file's content and the selected options -/
inductive Lib
  | ok (html : String)                 -- HTML, no error
  | validation (html : String)         -- HTML together with a validation error
  | failed                             -- no HTML, an ordinary error
deriving Repr, DecidableEq

structure In where
  readOk : Bool                        -- the input path could be read
  lib : Lib                            -- result of mjml.Render(content, options from --debug / --cache)
  outFile : Bool                       -- `-o <path>` given
  writeOk : Bool                       -- writing the output file succeeds
deriving Repr

structure Out where
  exit : Nat
  stdout : String
  stderr : Bool                        -- something was written to standard error
  file : Option String                 -- bytes delivered to the output file; `none` also after a failed write (which may truncate it)
deriving Repr, DecidableEq

def fail : Out := ⟨1, "", true, none⟩

def cli (i : In) : Out :=
  if !i.readOk then fail
  else match i.lib with
    | .ok html =>
      if i.outFile then (if i.writeOk then ⟨0, "", false, some html⟩ else fail)
      else ⟨0, html, false, none⟩
    | .validation _ => fail            -- any error, including a validation error: nothing is written
    | .failed => fail

/-- every error gives exactly `fail` -/
theorem cli_fail (i : In) (h : i.readOk = false ∨ (∀ html, i.lib ≠ .ok html)) : cli i = fail := by
  obtain ⟨r, l, o, wr⟩ := i
  cases r
  · rfl
  · cases l with
    | ok html =>
      -- the left disjunct of `h` is `true = false`
      exact absurd rfl (h.resolve_left Bool.noConfusion html)
    | validation _ | failed => rfl

/-- what is not `fail` is a success, and the bytes delivered are the library's -/
theorem cli_ok_or_fail (i : In) :
    cli i = fail ∨ ∃ html, i.lib = .ok html ∧ (cli i = ⟨0, "", false, some html⟩ ∨ cli i = ⟨0, html, false, none⟩) := by
  obtain ⟨r, l, o, wr⟩ := i
  cases r
  · exact .inl rfl
  · cases l with
    | ok html =>
      cases o
      · exact .inr ⟨html, rfl, .inr rfl⟩
      · cases wr
        · exact .inl rfl
        · exact .inr ⟨html, rfl, .inl rfl⟩
    | validation _ | failed => exact .inl rfl

end Gomjml.Cli
