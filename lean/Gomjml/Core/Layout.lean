namespace Gomjml.Layout
/-! The layout skeleton of the renderer as token lists, following the control flow of `body.go`, `section.go`, `wrapper.go`,
    `group.go`, `column.go`, `hero.go`, `html/mso.go`, and a machine `run` that follows both HTML views of a token list at once.  Result: `C02_C03_all`. -/

inductive Tag | div | table | tbody | tr | td | para | i | vrect | vtextbox | vfill | vimage
deriving DecidableEq, Repr

def Tag.outlookOnly : Tag → Bool
  | .vrect | .vtextbox | .vfill | .vimage => true
  | _ => false

inductive Tok
  | o (n : Tag) | c (n : Tag) | v (n : Tag) | co | cc | t
deriving DecidableEq, Repr

open Tok Tag

/-- machine state: inside an Outlook conditional?, stack seen by standard clients, stack seen by Outlook -/
structure MS where
  mso : Bool
  std : List Tag
  all : List Tag
deriving DecidableEq, Repr

def stepTok (s : MS) : Tok → Option MS
  | co => if s.mso then none else some { s with mso := true }            -- nested conditional = error
  | cc => if s.mso then some { s with mso := false } else none           -- stray endif = error
  | t => if s.mso then none else some s                                   -- author content hidden in an Outlook comment (C04)
  | v n => if !s.mso && n.outlookOnly then none else some s               -- VML outside a conditional
  | o n =>
    if s.mso then some { s with all := n :: s.all }
    else if n.outlookOnly then none
    else some { s with std := n :: s.std, all := n :: s.all }
  | c n =>
    match s.all with
    | [] => none
    | m :: ar =>
      if m ≠ n then none
      else if s.mso then some { s with all := ar }
      else match s.std with
        | [] => none
        | k :: sr => if k ≠ n then none else some { s with std := sr, all := ar }

def run (s : MS) : List Tok → Option MS
  | [] => some s
  | x :: xs => (stepTok s x).bind (fun s' => run s' xs)

theorem run_append (s : MS) (xs ys : List Tok) : run s (xs ++ ys) = (run s xs).bind (fun s' => run s' ys) := by
  induction xs generalizing s with
  | nil => rfl
  | cons x xs ih => cases h : stepTok s x <;> simp [run, h, ih]

theorem run_cons_eq_some {s r : MS} {x : Tok} {xs : List Tok} :
    run s (x :: xs) = some r ↔ ∃ s1, stepTok s x = some s1 ∧ run s1 xs = some r := Option.bind_eq_some_iff

/-- well-formed for both kinds of client -/
def WF (ts : List Tok) : Prop := run ⟨false, [], []⟩ ts = some ⟨false, [], []⟩

/-- a fragment that can be dropped anywhere in standard mode without disturbing either stack -/
def Neutral (xs : List Tok) : Prop := ∀ sd al, run ⟨false, sd, al⟩ xs = some ⟨false, sd, al⟩

def textRow : List Tok := [o tr, o td, o div, t, c div, c td, c tr]
/-- `mj-raw` in a column: `<i>…</i>` in the generated documents (`<p>…</p>` at body level) -/
def rawLeaf : List Tok := [o i, t, c i]

/-- `slot`: the place of any other content component (image, button, divider, social …): the component writes everything
    itself, row and cell included; its markup is filled in by `Leaves` / `Expand` -/
inductive Leaf | text | raw | slot
deriving Repr

def Leaf.toks : Leaf → List Tok
  | .text => textRow
  | .raw => rawLeaf
  | .slot => [t]

structure Column where
  gutter : Bool
  leaves : List Leaf
deriving Repr

def colPre (gutter : Bool) : List Tok := [o div] ++ (if gutter then [o table, o tbody, o tr, o td] else []) ++ [o table, o tbody]
def colPost (gutter : Bool) : List Tok := [c tbody, c table] ++ (if gutter then [c td, c tr, c tbody, c table] else []) ++ [c div]
def Column.toks (col : Column) : List Tok :=
  colPre col.gutter ++ col.leaves.flatMap Leaf.toks ++ colPost col.gutter

inductive GChild
  | col (c : Column)
  | raw (blank : Bool)
deriving Repr

def rawToks (blank : Bool) : List Tok := if blank then [] else rawLeaf

def GChild.isCol : GChild → Bool
  | .col _ => true
  | _ => false

/-- `group.go:176-239`: `first` = no column rendered yet, `rem` = columns still to come (this one included) -/
def gKids : Bool → Nat → List GChild → List Tok
  | _, _, [] => []
  | first, rem, .raw b :: r => rawToks b ++ gKids first rem r
  | first, rem, .col col :: r =>
    (if first then [co, o table, o tr, o td, cc] else [co, c td, o td, cc]) ++ col.toks ++
    (if rem == 1 then [co, c td, c tr, c table, cc] else []) ++ gKids false (rem - 1) r

def groupToks (kids : List GChild) : List Tok :=
  [co, o table, o tr, o td, cc, o div] ++ gKids true (kids.countP GChild.isCol) kids ++
  [c div, co, c td, c tr, c table, cc]

inductive SChild
  | col (c : Column)
  | group (g : List GChild)
  | raw (blank : Bool)
deriving Repr

def SChild.isCol : SChild → Bool
  | .col _ => true
  | _ => false
def SChild.isRaw : SChild → Bool
  | .raw _ => true
  | _ => false

structure Section where
  fw : Bool          -- full-width
  bg : Bool          -- background-url
  split : Bool       -- the single column has right-aligned text
  txt : Bool         -- no children but non-blank text
  bgc : Bool         -- background-color set (only steers the wrapper's Outlook table choice)
  css : Bool         -- css-class set; with `single` it picks a Go branch (`custom0`) that changes no token: `secPre_single`
  kids : List SChild
deriving Repr

/-- `section.go:558-811` for a shared Outlook table (`columnCount > 1 || rawSiblings > 0`, at least one
    column): `opened` = the shared `<table><tr>` has been written -/
def sharedKids : Bool → List SChild → List Tok
  | opened, [] => if opened then [co, c td, c tr, c table, cc] else []
  | opened, .raw b :: r => rawToks b ++ sharedKids opened r
  | opened, .group g :: r => groupToks g ++ sharedKids opened r
  | opened, .col col :: r =>
    (if opened then [co, c td] else [co, o table, o tr]) ++ [o td, cc] ++ col.toks ++ sharedKids true r

/-- not shared: a column gets an Outlook table of its own; also used for children without any column (raws, groups) -/
def soloKids (split : Bool) : List SChild → List Tok
  | [] => []
  | .raw b :: r => rawToks b ++ soloKids split r
  | .group g :: r => groupToks g ++ soloKids split r
  | .col col :: r =>
    (if split then [co, o table, o tr, cc, co, o td, cc] ++ col.toks ++ [co, c td, cc, co, c tr, c table, cc]
     else [co, o table, o tr, o td, cc] ++ col.toks ++ [co, c td, c tr, c table, cc]) ++ soloKids split r

/-- everything a section writes inside its `<td>` -/
def colsToks (split txt : Bool) (kids : List SChild) : List Tok :=
  let ncol := kids.countP SChild.isCol
  let nraw := kids.countP SChild.isRaw
  if kids.isEmpty then
    (if txt then [co, o table, o tr, cc, t, co, c tr, c table, cc] else [co, o table, o tr, c tr, c table, cc])
  else if ncol > 1 || nraw > 0 then
    (if ncol == 0 then [co, o table, o tr, cc] ++ soloKids split kids ++ [co, c tr, c table, cc]
     else sharedKids false kids)
  else soloKids split kids

/-- the standard-client part of a section -/
def innerPre (bg : Bool) : List Tok := [o div] ++ (if bg then [o div] else []) ++ [o table, o tbody, o tr, o td]
def innerPost (bg : Bool) : List Tok := [c td, c tr, c tbody, c table] ++ (if bg then [c div] else []) ++ [c div]
def innerToks (bg single txt : Bool) (kids : List SChild) : List Tok :=
  innerPre bg ++ colsToks single txt kids ++ innerPost bg

def secLeave (fw bg more : Bool) : Bool := !bg && !fw && more

/-- what a body-level section writes before its standard-client part -/
def secPre (fw bg single pending : Bool) : List Tok :=
  let vmlwrap := bg && fw
  let custom := single && !pending
  (if fw then [o table, o tbody, o tr, o td] ++ (if bg then [co, o vrect, v vfill, o vtextbox] else []) else []) ++
  (if custom then (if vmlwrap then [] else [co]) ++ [o table, o tr, o td]
   else (if pending || vmlwrap then [] else [co]) ++ [o table, o tr, o td]) ++
  (if bg && !fw then [o vrect, v vfill, o vtextbox, cc] else [cc])

/-- … and after it -/
def secPost (fw bg more : Bool) : List Tok :=
  (if bg && !fw then [co, c vtextbox, c vrect, c td, c tr, c table, cc]
   else if bg && fw then [co, c td, c tr, c table, c vtextbox, c vrect, cc]
   else if secLeave fw bg more then [co, c td, c tr, c table]
   else [co, c td, c tr, c table, cc]) ++
  (if fw then [c td, c tr, c tbody, c table] else [])

def emitToks (fw bg custom0 split txt pending more : Bool) (kids : List SChild) : List Tok × Bool :=
  (secPre fw bg custom0 pending ++ innerToks bg split txt kids ++ secPost fw bg more, secLeave fw bg more)

/-- `singleColumnSplit`: exactly one child, a column, with right-aligned text -/
def Section.single (s : Section) : Bool :=
  match s.kids with
  | [.col _] => s.split
  | _ => false

def Section.emit (s : Section) (pending more : Bool) : List Tok × Bool :=
  emitToks s.fw s.bg (s.single && !s.css) s.split s.txt pending more s.kids

def heroPre : List Tok :=
  [co, o table, o tr, o td, v vimage, cc, o div, o table, o tbody, o tr, o td, co, o table, o tr, o td, cc,
   o div, o table, o tbody, o tr, o td, o table, o tbody]
def heroPost : List Tok :=
  [c tbody, c table, c td, c tr, c tbody, c table, c div, co, c td, c tr, c table, cc,
   c td, c tr, c tbody, c table, c div, co, c td, c tr, c table, cc]
def heroToks (leaves : List Leaf) : List Tok := heroPre ++ leaves.flatMap Leaf.toks ++ heroPost

/-- a section rendered inside a wrapper (`skipSectionMSOTable`): `wmb` = wrapper delegated its background -/
def emitIW (fw bg wmb single txt : Bool) (kids : List SChild) : List Tok :=
  (if fw then [o table, o tbody, o tr, o td] ++
     (if bg then [co, o vrect, v vfill, o vtextbox, o table, o tr, o td, cc] else []) else []) ++
  (if wmb then [co, o table, o tr, o td, cc] else []) ++
  (if bg && !fw then [co, o vrect, v vfill, o vtextbox, cc] else []) ++
  innerToks bg single txt kids ++
  (if wmb then [co, c td, c tr, c table, cc] else []) ++
  (if bg && !fw then [co, c vtextbox, c vrect, cc] else []) ++
  (if fw then (if bg then [co, c td, c tr, c table, c vtextbox, c vrect, cc] else []) ++ [c td, c tr, c tbody, c table] else [])

inductive WChild
  | sec (s : Section)
  | raw (blank : Bool)
deriving Repr

def WChild.isSec : WChild → Bool
  | .sec _ => true
  | _ => false

structure Wrapper where
  fw : Bool
  bgc : Bool
  kids : List WChild
deriving Repr

def secsOf : List WChild → List Section
  | [] => []
  | .sec s :: r => s :: secsOf r
  | _ :: r => secsOf r

/-- the previous child in the children loop of `wrapper.go`: none / raw / section(fw) -/
inductive Prev | none | raw | sec (fw : Bool)

/-- how much of the wrapper's Outlook table structure is open at a point of the children loop (`html.MSOWrapper*`): nothing
    (a wrapper without renderable children writes a complete, empty table), the wrapper table and one of its cells, or a
    section table inside that cell as well -/
inductive Depth | none | cell | sec
deriving DecidableEq, Repr

/-- what Outlook's stack holds for a depth (top first) -/
def Depth.stack : Depth → List Tag
  | .none => []
  | .cell => [td, tr, table]
  | .sec => [td, tr, table, td, tr, table]

/-- close what is open down to the row level of the wrapper table (`msoWrapperRowClose`) -/
def rowClose : Depth → List Tok
  | .sec => [c td, c tr, c table, c td, c tr]
  | .cell => [c td, c tr]
  | .none => []

/-- open a cell of the wrapper table again, with or without a section table inside -/
def rowOpen (toSec : Bool) : List Tok := if toSec then [o tr, o td, o table, o tr, o td] else [o tr, o td]

def Depth.ofSec (toSec : Bool) : Depth := if toSec then .sec else .cell

/-- children loop: tokens written and the depth left open.  A raw child stands between two rows: what is open is closed in
    front of it and opened again behind it.  Between two sections the open depth is closed and a cell (with a section table
    when the previous section was not full-width, or `forceSec`) is opened. -/
def wKids (forceSec delegated wbgc : Bool) : Depth → Prev → List WChild → List Tok × Depth
  | d, _, [] => ([], d)
  | d, _, .raw b :: r =>
    let rest := wKids forceSec delegated wbgc d .raw r
    ((if d = .none then rawToks b
      else [co] ++ rowClose d ++ [cc] ++ rawToks b ++ [co] ++ rowOpen (decide (d = .sec)) ++ [cc]) ++ rest.1, rest.2)
  | d, prev, .sec s :: r =>
    let toSec := match prev with | .sec pfw => !pfw || forceSec | _ => false
    let d1 := match prev with | .sec _ => Depth.ofSec toSec | _ => d
    let trans := match prev with | .sec _ => [co] ++ rowClose d ++ rowOpen toSec ++ [cc] | _ => []
    let rest := wKids forceSec delegated wbgc d1 (.sec s.fw) r
    (trans ++ emitIW s.fw s.bg (delegated && s.fw && !s.bg && (s.bgc || wbgc)) s.split s.txt s.kids ++ rest.1, rest.2)

def wPre (fw pending : Bool) : List Tok :=
  (if fw then [o table, o tbody, o tr, o td] else []) ++
  (if pending then [o table, o tr, o td, cc] else [co, o table, o tr, o td, cc]) ++
  [o div, o table, o tbody, o tr, o td]

def wPost (fw : Bool) : List Tok :=
  [c td, c tr, c tbody, c table, c div, co, c td, c tr, c table, cc] ++
  (if fw then [c td, c tr, c tbody, c table] else [])

/-- depth the wrapper opens before its first child -/
def Wrapper.depth0 (w : Wrapper) : Depth :=
  let secs := secsOf w.kids
  let firstBgc := match secs with | s :: _ => s.bgc | [] => false
  let split := secs.any (·.fw)
  let msoBg := firstBgc || (split && w.bgc)
  let outerOnly := !secs.isEmpty && secs.all (fun s => s.fw && s.bg)
  let renderable := w.kids.any (fun c => match c with | .sec _ => true | .raw b => !b)
  if !renderable then .none else if outerOnly || (split && msoBg) then .cell else .sec

def Depth.openToks : Depth → List Tok
  | .none => [co, o table, c table, cc]
  | .cell => [co, o table, o tr, o td, cc]
  | .sec => [co, o table, o tr, o td, o table, o tr, o td, cc]

/-- `RenderMSOWrapperClose`: close exactly what is open -/
def Depth.closeToks (d : Depth) : List Tok := if d = .none then [] else [co] ++ rowClose d ++ [c table, cc]

/-- the Outlook part of a wrapper between its own cell and its closing -/
def Wrapper.mid (w : Wrapper) : List Tok :=
  let secs := secsOf w.kids
  let firstBgc := match secs with | s :: _ => s.bgc | [] => false
  let split := secs.any (·.fw)
  let msoBg := firstBgc || (split && w.bgc)
  let outerOnly := !secs.isEmpty && secs.all (fun s => s.fw && s.bg)
  let renderable := w.kids.any (fun c => match c with | .sec _ => true | .raw b => !b)
  let delegated := renderable && !outerOnly && split && msoBg
  -- wrapper.go:391 (full-width) computes it before `delegated` is set, wrapper.go:781 after
  let forceSec := if w.fw then false else delegated && w.bgc
  let k := wKids forceSec delegated w.bgc w.depth0 .none w.kids
  w.depth0.openToks ++ k.1 ++ k.2.closeToks

def Wrapper.toks (w : Wrapper) (pending : Bool) : List Tok := wPre w.fw pending ++ w.mid ++ wPost w.fw

inductive Block
  | section (s : Section)
  | wrapper (w : Wrapper)
  | hero (leaves : List Leaf)
  | raw (blank : Bool)
deriving Repr

/-- the children for which `body.go:135-138` sets `RemainingBodySections` -/
def Block.isSec : Block → Bool
  | .section _ => true
  | .wrapper _ => true
  | _ => false

/-- does the block that directly follows continue an Outlook comment left open? (`body.go`: a section or wrapper that is not
    full-width) -/
def nextConsumes : List Block → Bool
  | .section s :: _ => !s.fw
  | .wrapper w :: _ => !w.fw
  | _ => false

/-- what each body child writes into its own buffer, the pending flag threaded through -/
def blockOuts : List Block → Bool → List (List Tok)
  | [], _ => []
  | .section s :: rest, p =>
    let r := s.emit p (nextConsumes rest)
    r.1 :: blockOuts rest r.2
  | .wrapper w :: rest, p => w.toks p :: blockOuts rest false      -- a wrapper consumes and never leaves the comment
  | .hero ls :: rest, p => heroToks ls :: blockOuts rest p          -- pending is *not* reset: faithful to the code
  | .raw b :: rest, p => (if b then [] else [o Tag.para, t, c Tag.para]) :: blockOuts rest p

/-- the body writes each block once the next one is known: where one block ends with `endif` and the next begins with
    `if mso | IE`, both markers are dropped (MJML's mergeOutlookConditionnals at block boundaries); empty outputs are skipped -/
def join : List Tok → List (List Tok) → List Tok
  | held, [] => held
  | held, out :: rest =>
    if out = [] then join held rest
    else if held.getLast? = some cc ∧ out.head? = some co then held.dropLast ++ join out.tail rest
    else held ++ join out rest

def bodyLoop (bs : List Block) (p : Bool) : List Tok := join [] (blockOuts bs p)

def render (bs : List Block) : List Tok := [o div] ++ bodyLoop bs false ++ [c div]

/-- the successful steps of `stepTok` -/
inductive StepTok : MS → Tok → MS → Prop
  | co {s a} : StepTok ⟨false, s, a⟩ co ⟨true, s, a⟩
  | cc {s a} : StepTok ⟨true, s, a⟩ cc ⟨false, s, a⟩
  | t {s a} : StepTok ⟨false, s, a⟩ t ⟨false, s, a⟩
  | v {m s a n} (h : m = false → n.outlookOnly = false) : StepTok ⟨m, s, a⟩ (v n) ⟨m, s, a⟩
  | oMso {s a n} : StepTok ⟨true, s, a⟩ (o n) ⟨true, s, n :: a⟩
  | oStd {s a n} (h : n.outlookOnly = false) : StepTok ⟨false, s, a⟩ (o n) ⟨false, n :: s, n :: a⟩
  | cMso {s a n} : StepTok ⟨true, s, n :: a⟩ (c n) ⟨true, s, a⟩
  | cStd {s a n} : StepTok ⟨false, n :: s, n :: a⟩ (c n) ⟨false, s, a⟩

theorem stepTok_inv {s r : MS} {x : Tok} (h : stepTok s x = some r) : StepTok s x r := by
  obtain ⟨m, sd, al⟩ := s
  cases x with
  | c n =>
    cases al with
    | nil => simp [stepTok] at h
    | cons k ar =>
      cases m
      · cases sd with
        | nil => simp [stepTok] at h
        | cons k' sr =>
          -- `simp` leaves the equations between the fields of the two states
          simp [stepTok] at h
          obtain ⟨rfl, rfl, rfl⟩ := h
          exact .cStd
      · simp [stepTok] at h
        obtain ⟨rfl, rfl⟩ := h
        exact .cMso
  | o n =>
    cases m <;> simp [stepTok] at h
    · obtain ⟨hn, rfl⟩ := h
      exact .oStd hn
    · subst h; exact .oMso
  | v n =>
    simp [stepTok] at h
    obtain ⟨hn, rfl⟩ := h
    exact .v hn
  | co =>
    cases m <;> simp [stepTok] at h
    subst h
    exact .co
  | cc =>
    cases m <;> simp [stepTok] at h
    subst h
    exact .cc
  | t =>
    cases m <;> simp [stepTok] at h
    subst h
    exact .t

theorem stepTok_frame {x : Tok} {s r : MS} (sd al : List Tag) (h : stepTok s x = some r) :
    stepTok ⟨s.mso, s.std ++ sd, s.all ++ al⟩ x = some ⟨r.mso, r.std ++ sd, r.all ++ al⟩ := by
  cases stepTok_inv h with
  | v hn => simpa [stepTok] using hn
  | oStd hn => simp [stepTok, hn]
  | _ => simp [stepTok]

/-- **Frame lemma**: the machine only ever looks at the tops of its stacks -/
theorem run_frame : ∀ (xs : List Tok) (m : Bool) (s a : List Tag) (r : MS) (sd al : List Tag),
    run ⟨m, s, a⟩ xs = some r → run ⟨m, s ++ sd, a ++ al⟩ xs = some ⟨r.mso, r.std ++ sd, r.all ++ al⟩
  | [], m, s, a, r, sd, al, h => by cases h; rfl
  | x :: xs, m, s, a, r, sd, al, h => by
    obtain ⟨s1, hs, h⟩ := run_cons_eq_some.mp h
    exact run_cons_eq_some.mpr ⟨_, stepTok_frame sd al hs, run_frame xs s1.mso s1.std s1.all r sd al h⟩

/-- `xs` takes the machine from `s` to `r`, these being the tops of the stacks: whatever lies below stays -/
def Moves (s r : MS) (xs : List Tok) : Prop :=
  ∀ sd al, run ⟨s.mso, s.std ++ sd, s.all ++ al⟩ xs = some ⟨r.mso, r.std ++ sd, r.all ++ al⟩

/-- evaluate a concrete fragment on the stack tops it needs -/
theorem Moves.of_run {s r : MS} {xs : List Tok} (h : run s xs = some r) : Moves s r xs :=
  fun sd al => run_frame xs s.mso s.std s.all r sd al h

theorem Moves.append {s r u : MS} {xs ys : List Tok} (h1 : Moves s r xs) (h2 : Moves r u ys) : Moves s u (xs ++ ys) := by
  intro sd al; rw [run_append, h1]; exact h2 sd al

theorem Moves.nil (s : MS) : Moves s s [] := fun _ _ => rfl

theorem Neutral.moves {xs : List Tok} (h : Neutral xs) {S A : List Tag} : Moves ⟨false, S, A⟩ ⟨false, S, A⟩ xs :=
  fun _ _ => h _ _

/-- by reduction of `[] ++ sd` -/
theorem Moves.neutral {xs : List Tok} (h : Moves ⟨false, [], []⟩ ⟨false, [], []⟩ xs) : Neutral xs := h

theorem neutral_nil : Neutral [] := (Moves.nil _).neutral

theorem neutral_append {xs ys} (hx : Neutral xs) (hy : Neutral ys) : Neutral (xs ++ ys) :=
  (hx.moves.append hy.moves).neutral

theorem neutral_flatMap {α} (f : α → List Tok) (l : List α) (h : ∀ a ∈ l, Neutral (f a)) :
    Neutral (l.flatMap f) := by
  induction l with
  | nil => exact neutral_nil
  | cons a l ih => exact neutral_append (h a List.mem_cons_self) (ih fun b hb => h b (List.mem_cons_of_mem a hb))

theorem neutral_ite {cnd : Prop} [Decidable cnd] {a b : List Tok} (ha : Neutral a) (hb : Neutral b) :
    Neutral (if cnd then a else b) := by
  split <;> assumption

theorem sandwich (pre kids post : List Tok) (m m' : Bool) (S A : List Tag)
    (h1 : run ⟨m, [], []⟩ pre = some ⟨false, S, A⟩) (hk : Neutral kids)
    (h2 : run ⟨false, S, A⟩ post = some ⟨m', [], []⟩) (sd al : List Tag) :
    run ⟨m, sd, al⟩ (pre ++ kids ++ post) = some ⟨m', sd, al⟩ :=
  ((Moves.of_run h1).append hk.moves |>.append (Moves.of_run h2)) sd al

/-- `sandwich` with a neutral result: the first `rfl` evaluates the prefix, which fixes the stacks `S`, `A` left open, the second
    the suffix on them -/
theorem Neutral.wrap {pre kids post : List Tok} {S A : List Tag} (hk : Neutral kids)
    (h1 : run ⟨false, [], []⟩ pre = some ⟨false, S, A⟩) (h2 : run ⟨false, S, A⟩ post = some ⟨false, [], []⟩) :
    Neutral (pre ++ kids ++ post) :=
  sandwich pre kids post false false S A h1 hk h2

theorem closed_neutral {xs : List Tok} (h : WF xs) : Neutral xs := (Moves.of_run h).neutral

theorem leaf_neutral (l : Leaf) : Neutral l.toks := by
  cases l <;> exact closed_neutral rfl

theorem leaves_neutral (ls : List Leaf) : Neutral (ls.flatMap Leaf.toks) :=
  neutral_flatMap _ ls (fun a _ => leaf_neutral a)

theorem column_neutral (col : Column) : Neutral col.toks := by
  unfold Column.toks
  cases col.gutter <;> exact (leaves_neutral _).wrap rfl rfl

theorem rawToks_neutral (b : Bool) : Neutral (rawToks b) := neutral_ite neutral_nil (closed_neutral rfl)

/-- Outlook's stack for an open cell of a column table -/
def msoCell : List Tag := [td, tr, table]

/-- columns of a group, `n` of them still to come: a cell is open iff one has been rendered and more are to come (written
    so that `cases first` and `cases n` decide it) -/
theorem gKids_moves : ∀ (kids : List GChild) (first : Bool) (n : Nat), n = kids.countP GChild.isCol →
    Moves ⟨false, [], if first || n == 0 then [] else msoCell⟩ ⟨false, [], []⟩ (gKids first n kids)
  | [], first, _, rfl => by cases first <;> exact Moves.of_run rfl
  | .raw b :: r, first, n, h =>
    (rawToks_neutral b).moves.append (gKids_moves r first n (h.trans (List.countP_cons_of_neg Bool.false_ne_true)))
  | .col col :: r, first, 0, h => by cases h.trans (List.countP_cons_of_pos rfl)  -- `0 = _ + 1`
  | .col col :: r, first, n + 1, h => by
    have hn : n = r.countP GChild.isCol := Nat.succ.inj (h.trans (List.countP_cons_of_pos rfl))
    have hopen : Moves ⟨false, [], if first || n + 1 == 0 then [] else msoCell⟩ ⟨false, [], msoCell⟩
        (if first then [co, o table, o tr, o td, cc] else [co, c td, o td, cc]) := by
      cases first <;> exact Moves.of_run rfl
    have hclose : Moves ⟨false, [], msoCell⟩ ⟨false, [], if false || n == 0 then [] else msoCell⟩
        (if n + 1 == 1 then [co, c td, c tr, c table, cc] else []) := by
      cases n <;> exact Moves.of_run rfl
    exact ((hopen.append (column_neutral col).moves).append hclose).append (gKids_moves r false n hn)

theorem group_neutral (kids : List GChild) : Neutral (groupToks kids) :=
  (gKids_moves kids true _ rfl).neutral.wrap rfl rfl

theorem sharedKids_moves : ∀ (kids : List SChild) (opened : Bool),
    Moves ⟨false, [], if opened then msoCell else []⟩ ⟨false, [], []⟩ (sharedKids opened kids)
  | [], opened => by cases opened <;> exact Moves.of_run rfl
  | .raw b :: r, opened => (rawToks_neutral b).moves.append (sharedKids_moves r opened)
  | .group g :: r, opened => (group_neutral g).moves.append (sharedKids_moves r opened)
  | .col col :: r, opened => by
    have hopen : Moves ⟨false, [], if opened then msoCell else []⟩ ⟨false, [], msoCell⟩
        ((if opened then [co, c td] else [co, o table, o tr]) ++ [o td, cc]) := by
      cases opened <;> exact Moves.of_run rfl
    exact (hopen.append (column_neutral col).moves).append (sharedKids_moves r true)

theorem soloKids_neutral (split : Bool) : ∀ (kids : List SChild), Neutral (soloKids split kids)
  | [] => neutral_nil
  | .raw b :: r => neutral_append (rawToks_neutral b) (soloKids_neutral split r)
  | .group g :: r => neutral_append (group_neutral g) (soloKids_neutral split r)
  | .col col :: r =>
    neutral_append
      (neutral_ite ((column_neutral col).wrap rfl rfl)
        ((column_neutral col).wrap rfl rfl))
      (soloKids_neutral split r)

theorem cols_neutral (split txt : Bool) (kids : List SChild) : Neutral (colsToks split txt kids) :=
  -- the branches of `colsToks`, in its order
  have noColumn := (soloKids_neutral split kids).wrap (pre := [co, o table, o tr, cc]) rfl rfl
  neutral_ite (neutral_ite (closed_neutral rfl) (closed_neutral rfl))
    (neutral_ite (neutral_ite noColumn (sharedKids_moves kids false).neutral) (soloKids_neutral split kids))

theorem inner_neutral {bg single txt : Bool} {kids : List SChild} : Neutral (innerToks bg single txt kids) := by
  unfold innerToks
  cases bg <;> exact (cols_neutral _ _ _).wrap rfl rfl

/-- what a section has open between prologue and epilogue; the VML of a background image stands inside the Outlook cell, or
    around the Outlook table when the section is full-width -/
def secOpen (fw bg : Bool) : MS :=
  ⟨false, if fw then [td, tr, tbody, table] else [],
   (if bg && !fw then [vtextbox, vrect] else []) ++ [td, tr, table] ++ (if bg && fw then [vtextbox, vrect] else []) ++
     (if fw then [td, tr, tbody, table] else [])⟩

/-- `single` changes no token: both branches of `if custom` write the same -/
theorem secPre_single (fw bg single p : Bool) : secPre fw bg single p = secPre fw bg false p := by
  cases single <;> cases p <;> rfl

/-- the prologue consumes a pending comment (only a section that is not full-width is asked to) -/
theorem secPre_moves (fw bg single p : Bool) (hp : p = true → fw = false) :
    Moves ⟨p, [], []⟩ (secOpen fw bg) (secPre fw bg single p) := by
  rw [secPre_single]
  cases p
  · cases fw <;> cases bg <;> exact Moves.of_run rfl
  · cases hp rfl; cases bg <;> exact Moves.of_run rfl

theorem secPost_moves (fw bg more : Bool) : Moves (secOpen fw bg) ⟨secLeave fw bg more, [], []⟩ (secPost fw bg more) := by
  cases fw <;> cases bg <;> cases more <;> exact Moves.of_run rfl

theorem section_moves (s : Section) (p more : Bool) (hp : p = true → s.fw = false) :
    Moves ⟨p, [], []⟩ ⟨(s.emit p more).2, [], []⟩ (s.emit p more).1 :=
  ((secPre_moves _ _ _ _ hp).append inner_neutral.moves).append (secPost_moves _ _ _)

theorem hero_neutral (ls : List Leaf) : Neutral (heroToks ls) :=
  (leaves_neutral ls).wrap rfl rfl

/-- `wKids` delegates the wrapper's background table only to a full-width section; delegated to another, it would not be
    neutral beside a background image -/
theorem emitIW_neutral (fw bg wmb single txt : Bool) (kids : List SChild) (h : wmb = true → fw = true) :
    Neutral (emitIW fw bg wmb single txt kids) := by
  -- what follows the inner part, as one suffix
  rw [emitIW, List.append_assoc, List.append_assoc]
  cases wmb
  · cases fw <;> cases bg <;> exact inner_neutral.wrap rfl rfl
  · cases h rfl
    cases bg <;> exact inner_neutral.wrap rfl rfl

/-- what a wrapper without renderable children holds -/
def onlyBlank (kids : List WChild) : Prop := ∀ c ∈ kids, c = .raw true

theorem co_moves (S A : List Tag) : Moves ⟨false, S, A⟩ ⟨true, S, A⟩ [co] := Moves.of_run rfl
theorem cc_moves (S A : List Tag) : Moves ⟨true, S, A⟩ ⟨false, S, A⟩ [cc] := Moves.of_run rfl

theorem rowClose_moves {d : Depth} (hd : d ≠ .none) : Moves ⟨true, [], d.stack⟩ ⟨true, [], [table]⟩ (rowClose d) := by
  cases d
  · exact absurd rfl hd
  · exact Moves.of_run rfl
  · exact Moves.of_run rfl

theorem rowOpen_moves (toSec : Bool) : Moves ⟨true, [], [table]⟩ ⟨true, [], (Depth.ofSec toSec).stack⟩ (rowOpen toSec) := by
  cases toSec <;> exact Moves.of_run rfl

theorem openToks_moves (d : Depth) : Moves ⟨false, [], []⟩ ⟨false, [], d.stack⟩ d.openToks := by
  cases d <;> exact Moves.of_run rfl

theorem closeToks_moves (d : Depth) : Moves ⟨false, [], d.stack⟩ ⟨false, [], []⟩ d.closeToks := by
  cases d <;> exact Moves.of_run rfl

theorem ofSec_ne_none (toSec : Bool) : Depth.ofSec toSec ≠ .none := by cases toSec <;> decide

/-- the children loop asks for the section table again exactly when it was open -/
theorem ofSec_back {d : Depth} (hd : d ≠ .none) : Depth.ofSec (decide (d = .sec)) = d := by
  cases d
  · exact absurd rfl hd
  · rfl
  · rfl

/-- the invariant of the wrapper's children loop: from `d.stack` on Outlook's stack to the stack of the depth it reports
    (when nothing is open only blank raws may come) -/
theorem wKids_moves (fs dl wb : Bool) : ∀ (kids : List WChild) (d : Depth) (prev : Prev), (d = .none → onlyBlank kids) →
    Moves ⟨false, [], d.stack⟩ ⟨false, [], (wKids fs dl wb d prev kids).2.stack⟩ (wKids fs dl wb d prev kids).1
  | [], d, _, _ => Moves.of_run rfl
  | .raw b :: r, d, prev, hb => by
    have hhere : Moves ⟨false, [], d.stack⟩ ⟨false, [], d.stack⟩
        (if d = .none then rawToks b
         else [co] ++ rowClose d ++ [cc] ++ rawToks b ++ [co] ++ rowOpen (decide (d = .sec)) ++ [cc]) := by
      split
      · exact (rawToks_neutral b).moves
      · rename_i hd
        -- close down to the wrapper table, write the raw content, open what was open
        have := ((((((co_moves [] _).append (rowClose_moves hd)).append (cc_moves _ _)).append
          (rawToks_neutral b).moves).append (co_moves _ _)).append (rowOpen_moves (decide (d = .sec)))).append (cc_moves _ _)
        rwa [ofSec_back hd] at this
    -- unfold the loop first: left to `exact`, the unifier unfolds `wKids` by itself, at twice the cost
    simp only [wKids]
    exact hhere.append (wKids_moves fs dl wb r d .raw (fun h c hc => hb h c (List.mem_cons_of_mem _ hc)))
  | .sec s :: r, d, prev, hb => by
    have hd : d ≠ .none := fun h => by cases hb h (.sec s) (List.mem_cons_self ..)
    have hsec := emitIW_neutral s.fw s.bg (dl && s.fw && !s.bg && (s.bgc || wb)) s.split s.txt s.kids
      (fun h => by simp only [Bool.and_eq_true] at h; exact h.1.1.2)
    cases prev with
    | sec pfw =>
      simp only [wKids]
      have htrans := (((co_moves [] _).append (rowClose_moves hd)).append (rowOpen_moves (!pfw || fs))).append (cc_moves _ _)
      exact (htrans.append hsec.moves).append
        (wKids_moves fs dl wb r _ (.sec s.fw) (fun h => absurd h (ofSec_ne_none _)))
    | none | raw =>
      simp only [wKids]
      -- no section before: nothing between the rows
      exact ((Moves.nil _).append hsec.moves).append (wKids_moves fs dl wb r d (.sec s.fw) (fun h => absurd h hd))

theorem wKids_run (fs dl wb : Bool) : ∀ (kids : List WChild) (d : Depth) (prev : Prev) (sd al : List Tag),
    (d = .none → onlyBlank kids) →
    run ⟨false, sd, d.stack ++ al⟩ (wKids fs dl wb d prev kids).1 = some ⟨false, sd, (wKids fs dl wb d prev kids).2.stack ++ al⟩ :=
  fun kids d prev sd al h => wKids_moves fs dl wb kids d prev h sd al

theorem depth0_none (w : Wrapper) (h : w.depth0 = .none) : onlyBlank w.kids := by
  -- `depth0` answers `.none` in its first branch only: no child is renderable
  simp only [Wrapper.depth0] at h
  split at h
  · rename_i hr
    intro c hc
    have hcc := List.any_eq_false.mp (by simpa using hr) c hc
    cases c with
    | sec s => exact absurd rfl hcc
    | raw b =>
      cases b
      · exact absurd rfl hcc
      · rfl
  · -- the other branches answer `.cell` or `.sec`, whatever their condition
    revert h
    generalize (_ || _ : Bool) = c
    cases c <;> nofun

/-- **the Outlook part of every wrapper is neutral**: `wKids_moves` holds whatever `forceSec`, `delegated` and `w.bgc` are -/
theorem mid_neutral (w : Wrapper) : Neutral w.mid :=
  ((openToks_moves _).append (wKids_moves _ _ _ w.kids w.depth0 .none (depth0_none w)) |>.append (closeToks_moves _)).neutral

theorem wrapper_moves (w : Wrapper) (p : Bool) (hp : p = true → w.fw = false) :
    Moves ⟨p, [], []⟩ ⟨false, [], []⟩ (w.toks p) := by
  unfold Wrapper.toks
  cases p
  · cases w.fw <;> exact ((mid_neutral w).wrap rfl rfl).moves
  · rw [hp rfl]
    exact sandwich (wPre false true) w.mid (wPost false) true false _ _ rfl (mid_neutral w) rfl

def bodyFlat (bs : List Block) (p : Bool) : List Tok := (blockOuts bs p).flatten

theorem secLeave_next (s : Section) (p : Bool) (rest : List Block) :
    (s.emit p (nextConsumes rest)).2 = true → nextConsumes rest = true := by
  unfold Section.emit emitToks secLeave; simp

/-- a comment is left pending only in front of a section or wrapper -/
theorem not_pending {b : Block} {rest : List Block} {p : Bool} (hp : p = true → nextConsumes (b :: rest) = true)
    (hb : b.isSec = false) : p = false := by
  cases p
  · rfl
  · have h := hp rfl
    cases b with
    | «section» _ | wrapper _ => cases hb
    | hero _ | raw _ => cases h

theorem bodyFlat_moves : ∀ (bs : List Block) (p : Bool), (p = true → nextConsumes bs = true) →
    Moves ⟨p, [], []⟩ ⟨false, [], []⟩ (bodyFlat bs p)
  | [], p, hp => by
    cases p
    · exact Moves.of_run rfl
    · simp [nextConsumes] at hp
  | .section s :: rest, p, hp =>
    (section_moves s p _ (fun h => by simpa [nextConsumes] using hp h)).append (bodyFlat_moves rest _ (secLeave_next s p rest))
  | .wrapper w :: rest, p, hp =>
    (wrapper_moves w p (fun h => by simpa [nextConsumes] using hp h)).append (bodyFlat_moves rest false nofun)
  | .hero ls :: rest, p, hp => by
    cases not_pending hp rfl
    exact (hero_neutral ls).moves.append (bodyFlat_moves rest false nofun)
  | .raw b :: rest, p, hp => by
    cases not_pending hp rfl
    exact (neutral_ite neutral_nil (closed_neutral (xs := [o Tag.para, t, c Tag.para]) rfl)).moves.append
      (bodyFlat_moves rest false nofun)

/-- an `endif` directly followed by `if mso | IE` can be dropped -/
theorem run_cc_co (s r : MS) (xs ys : List Tok) (h : run s (xs ++ cc :: co :: ys) = some r) : run s (xs ++ ys) = some r := by
  rw [run_append] at h ⊢
  cases hx : run s xs with
  | none => simp [hx] at h
  | some s1 =>
    obtain ⟨m, sd, al⟩ := s1
    cases m
    · -- `cc` is refused outside a conditional
      simp [hx, run, stepTok] at h
    · simpa [hx, run, stepTok] using h

/-- the boundary merge deletes `endif`, `if mso | IE` pairs and nothing else: what survives the deletion of such a pair anywhere
    survives the merge (`pre`: what is already written) -/
theorem join_of_flatten (P : List Tok → Prop) (hP : ∀ xs ys, P (xs ++ cc :: co :: ys) → P (xs ++ ys)) :
    ∀ (outs : List (List Tok)) (pre held : List Tok), P (pre ++ (held ++ outs.flatten)) → P (pre ++ join held outs)
  | [], pre, held, h => by simpa [join] using h
  | out :: rest, pre, held, h => by
    unfold join
    split
    · rename_i he
      exact join_of_flatten P hP rest pre held (by simpa [he] using h)
    · split
      · rename_i hm
        obtain ⟨hd, rfl⟩ := List.getLast?_eq_some_iff.mp hm.1
        obtain ⟨tl, rfl⟩ := List.head?_eq_some_iff.mp hm.2
        have h' : P ((pre ++ hd) ++ cc :: co :: (tl ++ rest.flatten)) := by simpa using h
        simpa using join_of_flatten P hP rest (pre ++ hd) tl (hP _ _ h')
      · simpa using join_of_flatten P hP rest (pre ++ held) out (by simpa using h)

/-- **C02 ∧ C03 for every body of the layout model**: the standard-client view and the Outlook view of the rendered body are
    both strictly nested, conditional comments alternate, no VML outside a conditional -/
theorem C02_C03_all (bs : List Block) : WF (render bs) :=
  have hbody : Neutral (bodyLoop bs false) := fun sd al =>
    join_of_flatten (P := fun ts => run ⟨false, sd, al⟩ ts = some ⟨false, sd, al⟩) (run_cc_co _ _) (blockOuts bs false)
      (pre := []) (held := []) (bodyFlat_moves bs false nofun sd al)
  hbody.wrap (pre := [o div]) (post := [c div]) rfl rfl [] []

/-- while the Outlook comment is pending only a section or wrapper that is not full-width may follow: true of every body
    (`tame_all`), and `C02_C03_all` does not need it -/
def Tame : List Block → Bool → Prop
  | [], _ => True
  | .section s :: rest, p => (p = true → s.fw = false) ∧ Tame rest (s.emit p (nextConsumes rest)).2
  | .wrapper w :: rest, p => (p = true → w.fw = false) ∧ Tame rest false
  | .raw true :: rest, p => Tame rest p                          -- a blank raw writes nothing
  | _ :: rest, p => p = false ∧ Tame rest p

/-- `body.go` looks at the next sibling before a section leaves the comment open -/
theorem tame_all : ∀ (bs : List Block) (p : Bool), (p = true → nextConsumes bs = true) → Tame bs p
  | [], _, _ => trivial
  | .section s :: rest, p, hp => ⟨fun h => by simpa [nextConsumes] using hp h, tame_all rest _ (secLeave_next s p rest)⟩
  | .wrapper w :: rest, p, hp => ⟨fun h => by simpa [nextConsumes] using hp h, tame_all rest false nofun⟩
  | .raw true :: rest, p, hp => by cases not_pending hp rfl; exact tame_all rest false nofun
  | .hero _ :: rest, p, hp | .raw false :: rest, p, hp => by cases not_pending hp rfl; exact ⟨rfl, tame_all rest false nofun⟩

theorem C02_C03_tame (bs : List Block) (h : Tame bs false) : WF (render bs) :=
  have _ := h
  C02_C03_all bs

example : Tame [.section ⟨false, false, false, false, false, false, [.col ⟨false, [.text]⟩, .raw false, .group [.col ⟨true, [.text]⟩, .col ⟨false, []⟩]]⟩,
                .wrapper ⟨false, true, [.sec ⟨false, false, false, false, true, false, [.col ⟨false, [.text]⟩]⟩, .raw false,
                                        .sec ⟨false, false, true, false, false, false, [.col ⟨false, [.text]⟩]⟩]⟩,
                .section ⟨true, true, false, false, false, false, [.col ⟨false, [.text]⟩]⟩, .hero [.text]] false :=
  tame_all _ _ nofun

example : WF (render [.section ⟨false, false, false, false, false, false, [.col ⟨false, [.text]⟩]⟩,
                      .section ⟨true, false, false, false, false, false, [.col ⟨false, [.text]⟩]⟩]) := C02_C03_all _
example : WF (render [.section ⟨false, false, false, false, false, false, [.col ⟨false, [.text]⟩]⟩, .hero [.text],
                      .section ⟨false, false, false, false, false, false, [.col ⟨false, [.text]⟩]⟩]) := C02_C03_all _
example : WF (render [.section ⟨false, false, false, false, false, false, [.col ⟨false, [.text]⟩]⟩, .raw false,
                      .section ⟨false, false, false, false, false, false, [.col ⟨false, [.text]⟩]⟩]) := C02_C03_all _

example : WF (render [.wrapper ⟨false, false, [.sec ⟨true, false, false, false, true, false, [.col ⟨false, [.text]⟩]⟩]⟩]) := C02_C03_all _
example : WF (render [.wrapper ⟨false, false, [.raw true]⟩]) := C02_C03_all _
example : WF (render [.wrapper ⟨false, true, [.sec ⟨false, false, false, false, false, false, [.col ⟨false, [.text]⟩]⟩, .raw false,
                                              .sec ⟨true, true, false, false, false, false, [.col ⟨false, [.text]⟩]⟩]⟩]) := C02_C03_all _
end Gomjml.Layout
