/-! # Head feature detection (`checkChildrenForCondition` and the `has…Components` predicates of `mjml/render.go`)

The head decides which component CSS to write by searching the component tree: the search looks at the children of a component
only when the component's Go type is a case of its type switch.  Model: a rose tree of components (Go type, tag, children). -/
namespace Gomjml.Detect

inductive CT
  | node (ty : String) (tag : String) (kids : List CT)

def CT.ty : CT → String | .node ty _ _ => ty
def CT.tag : CT → String | .node _ tag _ => tag
def CT.kids : CT → List CT | .node _ _ kids => kids

mutual
/-- `checkChildrenForCondition(component, condition)`: `D` = the types of the type switch -/
def search (D : String → Bool) (p : CT → Bool) : CT → Bool
  | .node ty _ kids => D ty && searchList D p kids
def searchList (D : String → Bool) (p : CT → Bool) : List CT → Bool
  | [] => false
  | k :: r => (p k || search D p k) || searchList D p r
end

mutual
/-- the components the search looks at: children of components of a descending type, transitively -/
def reach (D : String → Bool) : CT → List CT
  | .node ty _ kids => if D ty then reachList D kids else []
def reachList (D : String → Bool) : List CT → List CT
  | [] => []
  | k :: r => k :: (reach D k ++ reachList D r)
end

mutual
/-- proper descendants: `checkChildrenForCondition` does not test the root (the two detectors that
    test the component first pass themselves as the condition) -/
def desc : CT → List CT
  | .node _ _ kids => descList kids
def descList : List CT → List CT
  | [] => []
  | k :: r => k :: (desc k ++ descList r)
end

mutual
/-- every component that has children is of a descending type -/
def covered (D : String → Bool) : CT → Bool
  | .node ty _ kids => (kids.isEmpty || D ty) && coveredList D kids
def coveredList (D : String → Bool) : List CT → Bool
  | [] => true
  | k :: r => covered D k && coveredList D r
end

mutual
theorem search_eq_reach (D : String → Bool) (p : CT → Bool) : ∀ t : CT, search D p t = (reach D t).any p
  | .node ty tag kids => by
    simp only [search, reach]
    cases hD : D ty
    · simp
    · simp only [Bool.true_and, if_true]
      exact searchList_eq_reach D p kids
theorem searchList_eq_reach (D : String → Bool) (p : CT → Bool) : ∀ l : List CT, searchList D p l = (reachList D l).any p
  | [] => rfl
  | k :: r => by
    simp only [searchList, reachList, List.any_cons, List.any_append]
    rw [search_eq_reach D p k, searchList_eq_reach D p r]
    simp [Bool.or_assoc]
end

mutual
theorem reach_eq_desc (D : String → Bool) : ∀ t : CT, covered D t = true → reach D t = desc t
  | .node ty tag kids => by
    intro h
    simp only [covered, Bool.and_eq_true, Bool.or_eq_true] at h
    simp only [reach, desc]
    cases kids with
    | nil => simp [reachList, descList]      -- `D ty` is not known here: both branches of the `if` are `[]`
    | cons k r =>
      have hD : D ty = true := by simpa using h.1
      simp only [hD, if_true]
      exact reachList_eq_desc D (k :: r) h.2
theorem reachList_eq_desc (D : String → Bool) : ∀ l : List CT, coveredList D l = true → reachList D l = descList l
  | [] => fun _ => rfl
  | k :: r => by
    intro h
    simp only [coveredList, Bool.and_eq_true] at h
    simp only [reachList, descList]
    rw [reach_eq_desc D k h.1, reachList_eq_desc D r h.2]
end

theorem search_iff_exists (D : String → Bool) (p : CT → Bool) (t : CT) (h : covered D t = true) :
    search D p t = true ↔ ∃ n ∈ desc t, p n = true := by
  rw [search_eq_reach, reach_eq_desc D t h, List.any_eq_true]

end Gomjml.Detect
