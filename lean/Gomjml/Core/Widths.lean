/-! Width flow (C10).  `impl` is the Model of what the Go code computes :
  body → wrapper (`getEffectiveWidth`) → section (`getInnerContentWidth`) → column (`GetWidthAsPixel`,
  `calculateEffectiveContentWidth`) / group (`MJGroupComponent.Render`) → image (`calculateDefaultWidth`) / divider;
  mj-hero hands its children its width minus horizontal padding.
`spec` is MJML's box model in exact rationals; the theorems use its section box and, through `specW`, the exact width of a
column or group, of which the Model's is the rounding.  Tie: correspondence run `hx C10` (scraped widths == Model, exactly). -/
namespace Gomjml.Widths

structure Edges where
  padL : Nat
  padR : Nat
  borL : Nat
  borR : Nat
deriving Repr, DecidableEq

def Edges.total (e : Edges) : Nat := e.padL + e.padR + e.borL + e.borR

inductive ColW
  | auto
  | pct (num den : Nat)     -- num/den percent  (33.33% = 3333/100)
  | px (n : Nat)
deriving Repr, DecidableEq

inductive Leaf
  | image (l r : Nat)               -- mj-image without width: l / r = its horizontal padding plus border, per side
  | divider (l r : Nat)
  | dividerP (l r a b : Nat)        -- mj-divider with the percentage width `a/b` % (37.5% = 75/2)
  | imageW (l r w : Nat)            -- mj-image with an explicit pixel width `w`
  | carousel                        -- mj-carousel: its images are as wide as the container
  | other
deriving Repr, DecidableEq

structure Col where
  w : ColW
  e : Edges
  leaf : Leaf
deriving Repr, DecidableEq

inductive Item
  | col (c : Col)
  | group (w : ColW) (cols : List Col)
deriving Repr

inductive Block
  | sec (e : Edges) (items : List Item)
  | hero (e : Edges) (leaves : List Leaf)
deriving Repr

structure Doc where
  body : Nat                       -- mj-body width
  wrapper : Option Edges           -- enclosing mj-wrapper, if any
  block : Block
deriving Repr

/-- `strconv.FormatFloat(x, 'f', 0, 64)` of the quotient `n/d`: round half even -/
def rhe (n : Int) (d : Nat) : Int :=
  let q := n / (d : Int)
  let r := n % (d : Int)
  if 2 * r < (d : Int) then q else if (d : Int) < 2 * r then q + 1 else if q % 2 = 0 then q else q + 1

/-- `int(x)` of `n/d` for `0 ≤ n`; below 0 this floors where Go truncates: a negative box is outside the Model -/
def fl (n : Int) (d : Nat) : Int := n / (d : Int)

/-- section / hero: width minus padding and borders; the code falls back to the full width when nothing is left -/
def secBox (w : Int) (e : Edges) : Int := if w - (e.total : Int) ≤ 0 then w else w - (e.total : Int)

/-- column: own pixel width minus padding and borders; falls back when negative -/
def colContent (px : Int) (e : Edges) : Int := if px - (e.total : Int) < 0 then px else px - (e.total : Int)

/-- the container an image / divider sees: a component whose container width is not positive falls back to 600 -/
def leafContainer (c : Int) : Int := if c ≤ 0 then 600 else c

/-- `int(float64(avail) * p / 100)` for the percentage `p = a/b`: truncation towards zero -/
def pctOf (avail : Int) (a b : Nat) : Int :=
  if avail < 0 then -(fl (-avail * (a : Int)) (100 * b)) else fl (avail * (a : Int)) (100 * b)

def leafW (c : Int) : Leaf → Option Int
  | .image l r => some (if leafContainer c - ((l + r : Nat) : Int) ≤ 0 then leafContainer c else leafContainer c - ((l + r : Nat) : Int))
  | .divider l r => some (leafContainer c - ((l + r : Nat) : Int))
  | .dividerP l r a b => some (pctOf (leafContainer c - ((l + r : Nat) : Int)) a b)
  | .imageW l r w =>
    let avail := if leafContainer c - ((l + r : Nat) : Int) ≤ 0 then leafContainer c else leafContainer c - ((l + r : Nat) : Int)
    some (if (w : Int) < avail then (w : Int) else avail)        -- never wider than what is left after padding
  | .carousel => some (leafContainer c)
  | .other => none

/-- Outlook width of a column that is one of `k` non-raw children of a section whose content box is `box` -/
def colPx (box : Int) (k : Nat) : ColW → Int
  | .auto => rhe box k
  | .pct a b => rhe (box * a) (100 * b)
  | .px n => n

def groupPx (box : Int) (k : Nat) : ColW → Int
  | .auto => fl box k
  | .pct a b => fl (box * a) (100 * b)
  | .px n => n

/-- a column inside a group of width `g` with `m` columns (the pre-pass gives width-less columns the percentage `100/m`) -/
def groupChildPx (g : Int) (m : Nat) : ColW → Int
  | .auto => rhe g m
  | .pct a b => rhe (g * a) (100 * b)
  | .px n => n

structure ColOut where
  px : Int
  content : Int
  leaf : Option Int
deriving Repr, DecidableEq

inductive ItemOut
  | col (o : ColOut)
  | group (px : Int) (cols : List ColOut)
deriving Repr

structure Out where
  wrapperW : Int     -- the body width, wrapper or not
  sectionW : Int
  box : Int
  items : List ItemOut
  heroLeaves : List (Option Int)
deriving Repr

def colOut (px : Int) (c : Col) : ColOut :=
  ⟨px, colContent px c.e, leafW (colContent px c.e) c.leaf⟩

def itemOut (box : Int) (k : Nat) : Item → ItemOut
  | .col c => .col (colOut (colPx box k c.w) c)
  | .group w cols => .group (groupPx box k w) (cols.map fun c => colOut (groupChildPx (groupPx box k w) cols.length c.w) c)

/-- width handed to the block: the body width, or inside a wrapper the body width minus the wrapper's padding and borders -/
def blockW (d : Doc) : Int :=
  match d.wrapper with
  | none => d.body
  | some e => (d.body : Int) - (e.total : Int)

def impl (d : Doc) : Out :=
  match d.block with
  | .sec e items =>
    { wrapperW := d.body, sectionW := blockW d, box := secBox (blockW d) e,
      items := items.map (itemOut (secBox (blockW d) e) items.length), heroLeaves := [] }
  | .hero e leaves =>
    -- `hero.go` subtracts the horizontal padding only: the borders of `e` are not read
    { wrapperW := d.body, sectionW := blockW d, box := secBox (blockW d) ⟨e.padL, e.padR, 0, 0⟩,
      items := [], heroLeaves := leaves.map (leafW (secBox (blockW d) ⟨e.padL, e.padR, 0, 0⟩)) }

/-- an exact rational `num / den` -/
abbrev Q := Int × Nat

def Q.sub (q : Q) (n : Nat) : Q := (q.1 - (n : Int) * q.2, q.2)

def specW (box : Q) (k : Nat) : ColW → Q
  | .auto => (box.1, box.2 * k)
  | .pct a b => (box.1 * a, box.2 * (100 * b))
  | .px n => (n, 1)

def specLeaf (c : Q) : Leaf → Option Q
  | .image l r => some (c.sub (l + r))
  | .divider l r => some (c.sub (l + r))
  | .dividerP l r a b => some ((c.sub (l + r)).1 * (a : Int), (c.sub (l + r)).2 * (100 * b))
  | .imageW l r w => some (if (w : Int) * (c.2 : Int) < (c.sub (l + r)).1 then ((w : Int), 1) else c.sub (l + r))
  | .carousel => some c
  | .other => none

structure SColOut where
  px : Q
  content : Q
  leaf : Option Q
deriving Repr

inductive SItemOut
  | col (o : SColOut)
  | group (px : Q) (cols : List SColOut)
deriving Repr

structure SOut where
  wrapperW : Int
  sectionW : Int
  box : Int
  items : List SItemOut
  heroLeaves : List (Option Q)
deriving Repr

def sColOut (px : Q) (c : Col) : SColOut := ⟨px, px.sub c.e.total, specLeaf (px.sub c.e.total) c.leaf⟩

def sItemOut (box : Q) (k : Nat) : Item → SItemOut
  | .col c => .col (sColOut (specW box k c.w) c)
  | .group w cols => .group (specW box k w) (cols.map fun c => sColOut (specW (specW box k w) cols.length c.w) c)

def spec (d : Doc) : SOut :=
  match d.block with
  | .sec e items =>
    { wrapperW := d.body, sectionW := blockW d, box := blockW d - (e.total : Int),
      items := items.map (sItemOut (blockW d - (e.total : Int), 1) items.length), heroLeaves := [] }
  | .hero e leaves =>
    { wrapperW := d.body, sectionW := blockW d, box := blockW d - ((e.padL + e.padR : Nat) : Int),
      items := [], heroLeaves := leaves.map (specLeaf (blockW d - ((e.padL + e.padR : Nat) : Int), 1)) }

theorem impl_wrapperW (d : Doc) : (impl d).wrapperW = d.body := by unfold impl; split <;> rfl
theorem impl_sectionW (d : Doc) : (impl d).sectionW = blockW d := by unfold impl; split <;> rfl

theorem divmod (n : Int) (d : Nat) (hd : 0 < d) :
    (d : Int) * (n / (d : Int)) + n % (d : Int) = n ∧ 0 ≤ n % (d : Int) ∧ n % (d : Int) < (d : Int) := by
  have hd' : (0 : Int) < (d : Int) := Int.natCast_pos.mpr hd
  exact ⟨Int.mul_ediv_add_emod n d, Int.emod_nonneg n (Int.ne_of_gt hd'), Int.emod_lt_of_pos n hd'⟩

theorem rhe_cases (n : Int) (d : Nat) :
    (rhe n d = n / (d : Int) ∧ 2 * (n % (d : Int)) ≤ d) ∨ (rhe n d = n / (d : Int) + 1 ∧ (d : Int) ≤ 2 * (n % (d : Int))) := by
  unfold rhe; simp only
  split
  · next h => exact .inl ⟨rfl, Int.le_of_lt h⟩
  · next h1 =>
    split
    · next h2 => exact .inr ⟨rfl, Int.le_of_lt h2⟩
    · next h2 =>
      split
      · exact .inl ⟨rfl, Int.not_lt.mp h2⟩
      · exact .inr ⟨rfl, Int.not_lt.mp h1⟩

/-- rounding to nearest moves a quotient by at most half a pixel -/
theorem rhe_err (n : Int) (d : Nat) (hd : 0 < d) :
    2 * ((d : Int) * rhe n d - n) ≤ (d : Int) ∧ -(d : Int) ≤ 2 * ((d : Int) * rhe n d - n) := by
  obtain ⟨h1, h2, h3⟩ := divmod n d hd
  rcases rhe_cases n d with ⟨h, hr⟩ | ⟨h, hr⟩
  · rw [h]
    omega
  · rw [h, Int.mul_add, Int.mul_one]
    omega

/-- truncation moves a quotient down by less than a pixel -/
theorem fl_err (n : Int) (d : Nat) (hd : 0 < d) :
    0 ≤ n - (d : Int) * fl n d ∧ n - (d : Int) * fl n d < (d : Int) := by
  obtain ⟨h1, h2, h3⟩ := divmod n d hd
  unfold fl
  generalize (d : Int) * (n / (d : Int)) = x at *
  omega

/-- `rhe n d` is less than one from `n/d`, so it lies between any whole bounds of it -/
theorem rhe_bounds (n B : Int) (d : Nat) (hd : 0 < d) (h0 : 0 ≤ n) (hB : n ≤ B * (d : Int)) :
    0 ≤ rhe n d ∧ rhe n d ≤ B := by
  have he := rhe_err n d hd
  have hd : (0 : Int) ≤ (d : Int) := Int.natCast_nonneg d
  constructor
  · have : (d : Int) * (-1) < (d : Int) * rhe n d := by rw [Int.mul_neg, Int.mul_one]; omega
    have := Int.lt_of_mul_lt_mul_left this hd; omega
  · have : (d : Int) * rhe n d < (d : Int) * (B + 1) := by rw [Int.mul_add, Int.mul_one, Int.mul_comm _ B]; omega
    have := Int.lt_of_mul_lt_mul_left this hd; omega

theorem fl_nonneg (n : Int) (d : Nat) (h : 0 ≤ n) : 0 ≤ fl n d := Int.ediv_nonneg h (Int.natCast_nonneg d)

theorem fl_bounds (n B : Int) (d : Nat) (hd : 0 < d) (h0 : 0 ≤ n) (hB : n ≤ B * (d : Int)) :
    0 ≤ fl n d ∧ fl n d ≤ B :=
  ⟨fl_nonneg n d h0, Int.ediv_le_of_le_mul (Int.natCast_pos.mpr hd) hB⟩

/-- `c` less `p` of padding, or `c` when nothing is left (the code's fall-back) -/
theorem rest_le (c p : Int) (hp : 0 ≤ p) : (if c - p ≤ 0 then c else c - p) ≤ c := by split <;> omega

theorem secBox_le (w : Int) (e : Edges) : secBox w e ≤ w := rest_le w _ (Int.natCast_nonneg _)
theorem secBox_nonneg (w : Int) (e : Edges) (h : 0 ≤ w) : 0 ≤ secBox w e := by unfold secBox; split <;> omega
theorem secBox_exact (w : Int) (e : Edges) (h : 0 < w - (e.total : Int)) : secBox w e = w - (e.total : Int) := by
  unfold secBox; split <;> omega

theorem colContent_le (px : Int) (e : Edges) : colContent px e ≤ px := by unfold colContent; split <;> omega
theorem colContent_exact (px : Int) (e : Edges) (h : 0 ≤ px - (e.total : Int)) : colContent px e = px - (e.total : Int) := by
  unfold colContent; split <;> omega

theorem pct_le (box : Int) (a b : Nat) (hb : 0 ≤ box) (h : a ≤ 100 * b) : box * (a : Int) ≤ box * ((100 * b : Nat) : Int) :=
  Int.mul_le_mul_of_nonneg_left (Int.ofNat_le.mpr h) hb

/-- a divider's percentage is at most 100 -/
def Leaf.Sane : Leaf → Prop
  | .dividerP _ _ a b => 0 < b ∧ a ≤ 100 * b
  | _ => True

instance : DecidablePred Leaf.Sane := fun lf => by cases lf <;> unfold Leaf.Sane <;> exact inferInstance

theorem pctOf_le (avail : Int) (a b : Nat) (hb : 0 < b) (hab : a ≤ 100 * b) : pctOf avail a b ≤ max avail 0 := by
  unfold pctOf
  split
  · next hneg =>
    have h0 := fl_nonneg (-avail * (a : Int)) (100 * b) (Int.mul_nonneg (by omega) (Int.natCast_nonneg a))
    exact Int.le_trans (Int.neg_nonpos_of_nonneg h0) (Int.le_max_right ..)
  · next hpos =>
    have hav : 0 ≤ avail := Int.not_lt.mp hpos
    exact Int.le_trans (fl_bounds _ avail (100 * b) (by omega) (Int.mul_nonneg hav (Int.natCast_nonneg a))
      (pct_le avail a b hav hab)).2 (Int.le_max_left ..)

theorem pctOf_nonneg (avail : Int) (a b : Nat) (h : 0 ≤ avail) : 0 ≤ pctOf avail a b := by
  unfold pctOf
  split
  · omega
  · exact fl_nonneg _ _ (Int.mul_nonneg h (Int.natCast_nonneg a))

theorem leafContainer_pos (c : Int) (hc : 0 < c) : leafContainer c = c := if_neg (Int.not_le.mpr hc)

theorem leaf_le (c : Int) (lf : Leaf) (x : Int) (hc : 0 < c) (hs : lf.Sane) (h : leafW c lf = some x) : x ≤ c := by
  have hp (l r : Nat) : (0 : Int) ≤ ((l + r : Nat) : Int) := Int.natCast_nonneg _
  rw [leafW.eq_def, leafContainer_pos c hc] at h
  cases lf with
  | image l r => cases h; exact rest_le c _ (hp l r)
  | divider l r => cases h; exact Int.sub_le_self c (hp l r)
  | dividerP l r a b =>
    cases h
    exact Int.le_trans (pctOf_le _ a b hs.1 hs.2) (Int.max_le.mpr ⟨Int.sub_le_self c (hp l r), Int.le_of_lt hc⟩)
  | imageW l r w =>
    cases h
    have hA := rest_le c _ (hp l r)
    generalize (if c - ((l + r : Nat) : Int) ≤ 0 then c else c - ((l + r : Nat) : Int)) = A at hA ⊢
    split
    · next hw => exact Int.le_trans (Int.le_of_lt hw) hA
    · exact hA
  | carousel => cases h; exact Int.le_refl c
  | other => cases h

theorem leafW_image (c : Int) (l r : Nat) (hc : 0 < c) (hp : 0 < c - ((l + r : Nat) : Int)) :
    leafW c (.image l r) = some (c - ((l + r : Nat) : Int)) := by
  simp only [leafW, leafContainer_pos c hc, if_neg (Int.not_le.mpr hp)]

theorem leafW_divider (c : Int) (l r : Nat) (hc : 0 < c) : leafW c (.divider l r) = some (c - ((l + r : Nat) : Int)) := by
  simp only [leafW, leafContainer_pos c hc]

theorem leafW_dividerP (c : Int) (l r a b : Nat) (hc : 0 < c) (hp : 0 ≤ c - ((l + r : Nat) : Int)) :
    leafW c (.dividerP l r a b) = some (fl ((c - ((l + r : Nat) : Int)) * (a : Int)) (100 * b)) := by
  simp only [leafW, leafContainer_pos c hc, pctOf, if_neg (Int.not_lt.mpr hp)]

theorem leafW_imageW (c : Int) (l r w : Nat) (hc : 0 < c) (hp : 0 < c - ((l + r : Nat) : Int)) :
    leafW c (.imageW l r w) = some (min (w : Int) (c - ((l + r : Nat) : Int))) := by
  simp only [leafW, leafContainer_pos c hc, if_neg (Int.not_le.mpr hp), Option.some.injEq]
  split <;> omega

theorem leaf_pct (c : Int) (l r a b : Nat) (x : Int) (hc : 0 < c) (hb : 0 < b) (h : leafW c (.dividerP l r a b) = some x)
    (hp : 0 ≤ c - ((l + r : Nat) : Int)) :
    ((100 * b : Nat) : Int) * x ≤ (c - ((l + r : Nat) : Int)) * (a : Int) ∧
    (c - ((l + r : Nat) : Int)) * (a : Int) < ((100 * b : Nat) : Int) * (x + 1) := by
  cases (leafW_dividerP c l r a b hc hp).symm.trans h
  have := fl_err ((c - ((l + r : Nat) : Int)) * (a : Int)) (100 * b) (by omega)
  rw [Int.mul_add, Int.mul_one]
  omega

/-- what the nesting theorem covers: automatic, or a percentage ≤ 100; not a pixel width -/
def ColW.Sane : ColW → Prop
  | .auto => True
  | .pct a b => 0 < b ∧ a ≤ 100 * b
  | .px _ => False

instance : DecidablePred ColW.Sane := fun w => by cases w <;> unfold ColW.Sane <;> exact inferInstance

theorem specW_bounds (box : Int) (k : Nat) (w : ColW) (hb : 0 ≤ box) (hk : 0 < k) (hw : w.Sane) :
    0 < (specW (box, 1) k w).2 ∧ 0 ≤ (specW (box, 1) k w).1 ∧
    (specW (box, 1) k w).1 ≤ box * ((specW (box, 1) k w).2 : Int) := by
  cases w with
  | auto =>
    have hk1 : box * 1 ≤ box * (k : Int) := Int.mul_le_mul_of_nonneg_left (Int.ofNat_le.mpr hk) hb
    rw [Int.mul_one] at hk1
    simp only [specW, Nat.one_mul]
    exact ⟨hk, hb, hk1⟩
  | pct a b =>
    simp only [specW, Nat.one_mul]
    exact ⟨by have := hw.1; omega, Int.mul_nonneg hb (Int.natCast_nonneg a), pct_le box a b hb hw.2⟩
  | px n => exact hw.elim

theorem rhe_one (n : Int) : rhe n 1 = n := by simp [rhe]
theorem fl_one (n : Int) : fl n 1 = n := by simp [fl]

/-- a section's child: the Model's width is the Spec's exact width rounded … (a column in a group: rounded from the group's
    cut width, which the Spec does not cut) -/
theorem colPx_eq_rhe (box : Int) (k : Nat) (w : ColW) :
    colPx box k w = rhe (specW (box, 1) k w).1 (specW (box, 1) k w).2 := by
  cases w with
  | auto | pct a b => simp only [specW, colPx, Nat.one_mul]
  | px n => exact (rhe_one n).symm

/-- … or, for a group, cut -/
theorem groupPx_eq_fl (box : Int) (k : Nat) (w : ColW) :
    groupPx box k w = fl (specW (box, 1) k w).1 (specW (box, 1) k w).2 := by
  cases w with
  | auto | pct a b => simp only [specW, groupPx, Nat.one_mul]
  | px n => exact (fl_one n).symm

theorem groupChildPx_eq (g : Int) (m : Nat) (w : ColW) : groupChildPx g m w = colPx g m w := by cases w <;> rfl

theorem colPx_bounds (box : Int) (k : Nat) (w : ColW) (hb : 0 ≤ box) (hk : 0 < k) (hw : w.Sane) :
    0 ≤ colPx box k w ∧ colPx box k w ≤ box := by
  obtain ⟨h0, h1, h2⟩ := specW_bounds box k w hb hk hw
  rw [colPx_eq_rhe]
  exact rhe_bounds _ box _ h0 h1 h2

theorem colPx_nonneg (box : Int) (k : Nat) (w : ColW) (hb : 0 ≤ box) (hk : 0 < k) (hw : w.Sane) : 0 ≤ colPx box k w :=
  (colPx_bounds box k w hb hk hw).1

theorem groupPx_bounds (box : Int) (k : Nat) (w : ColW) (hb : 0 ≤ box) (hk : 0 < k) (hw : w.Sane) :
    0 ≤ groupPx box k w ∧ groupPx box k w ≤ box := by
  obtain ⟨h0, h1, h2⟩ := specW_bounds box k w hb hk hw
  rw [groupPx_eq_fl]
  exact fl_bounds _ box _ h0 h1 h2

/-- `0 < o.content`: otherwise `leafContainer` falls back to 600 -/
def ColOut.Fits (o : ColOut) (parent : Int) : Prop :=
  o.px ≤ parent ∧ o.content ≤ o.px ∧ ∀ x, 0 < o.content → o.leaf = some x → x ≤ o.content

def ItemOut.Fits (box : Int) : ItemOut → Prop
  | .col o => o.Fits box
  | .group g cols => g ≤ box ∧ ∀ o ∈ cols, o.Fits g

def Item.Sane : Item → Prop
  | .col c => c.w.Sane ∧ c.leaf.Sane
  | .group w cols => w.Sane ∧ ∀ c ∈ cols, c.w.Sane ∧ c.leaf.Sane

theorem colOut_fits (px parent : Int) (c : Col) (h : px ≤ parent) (hl : c.leaf.Sane) : (colOut px c).Fits parent :=
  ⟨h, colContent_le px c.e, fun x hc hx => leaf_le _ c.leaf x hc hl hx⟩

theorem itemOut_fits (box : Int) (k : Nat) (it : Item) (hb : 0 ≤ box) (hk : 0 < k) (hs : it.Sane) :
    (itemOut box k it).Fits box := by
  cases it with
  | col c => exact colOut_fits _ box c (colPx_bounds box k c.w hb hk hs.1).2 hs.2
  | group w cols =>
    obtain ⟨hw, hc⟩ := hs
    obtain ⟨hg0, hg⟩ := groupPx_bounds box k w hb hk hw
    refine ⟨hg, fun o ho => ?_⟩
    obtain ⟨c, hcm, rfl⟩ := List.mem_map.mp ho
    have hm : 0 < cols.length := List.length_pos_of_mem hcm
    exact colOut_fits _ _ c (by rw [groupChildPx_eq]; exact (colPx_bounds _ cols.length c.w hg0 hm (hc c hcm).1).2) (hc c hcm).2

/-- rounded siblings exceed the exact sum by at most half a pixel each -/
theorem rounded_sum_le (D : Nat) (hD : 0 < D) {ι} (g : ι → Int) : ∀ l : List ι,
    2 * ((D : Int) * (l.map (fun i => rhe (g i) D)).sum) ≤ 2 * (l.map g).sum + (l.length : Int) * (D : Int)
  | [] => by simp
  | i :: rest => by
    have ih := rounded_sum_le D hD g rest
    have h := (rhe_err (g i) D hD).1
    simp only [List.map_cons, List.sum_cons, List.length_cons, Int.mul_add, Int.natCast_add, Int.natCast_one, Int.add_mul, Int.one_mul] at *
    omega

theorem sum_map_mul_left (box : Int) : ∀ ps : List Nat,
    (ps.map (fun (p : Nat) => box * (p : Int))).sum = box * ((ps.sum : Nat) : Int)
  | [] => (Int.mul_zero box).symm
  | p :: r => by
    rw [List.map_cons, List.sum_cons, List.sum_cons, sum_map_mul_left box r, Int.natCast_add, Int.mul_add]

/-- unrounded they stay within the box -/
theorem exact_sum_le (box : Int) (hb : 0 ≤ box) (ps : List Nat) (h : ps.sum ≤ 100) :
    (ps.map (fun (p : Nat) => box * (p : Int))).sum ≤ box * 100 := by
  rw [sum_map_mul_left]
  exact Int.mul_le_mul_of_nonneg_left (Int.ofNat_le.mpr h) hb

/-- whole-number percentages (`.pct p 1`) only -/
theorem sibling_sum_partial (box : Int) (hb : 0 ≤ box) (ps : List Nat) (h : ps.sum ≤ 100) :
    2 * (ps.map (fun p => colPx box ps.length (.pct p 1))).sum ≤ 2 * box + ps.length := by
  -- each summand is `rhe (box * p) 100` by definition
  have h1 : 2 * (100 * (ps.map (fun p => colPx box ps.length (.pct p 1))).sum) ≤ _ :=
    rounded_sum_le 100 (by decide) (fun (p : Nat) => box * (p : Int)) ps
  have h2 := exact_sum_le box hb ps h
  omega

theorem colPx_close (box : Int) (k : Nat) (w : ColW) (hk : 0 < k) (hw : ∀ a b, w = .pct a b → 0 < b) :
    2 * (((specW (box, 1) k w).2 : Int) * colPx box k w - (specW (box, 1) k w).1) ≤ ((specW (box, 1) k w).2 : Int) ∧
    -((specW (box, 1) k w).2 : Int) ≤ 2 * (((specW (box, 1) k w).2 : Int) * colPx box k w - (specW (box, 1) k w).1) := by
  rw [colPx_eq_rhe]
  refine rhe_err _ _ ?_
  cases w with
  | auto => simpa [specW] using hk
  | pct a b => simpa [specW] using hw a b rfl
  | px n => exact Nat.one_pos

end Gomjml.Widths
