import Gomjml.Core.Util
/-! # The document's attribute store (`mjml/globals/attributes.go`): mj-all, per-tag defaults, mj-class definitions

`ProcessAttributesFromHead` walks the `mj-attributes` blocks of the head in document order and writes every attribute of every
child into one of three tables (Go maps; here association lists with the same `m[k] = v` semantics).  The Spec is what an
author expects: **the last definition in document order wins, attribute by attribute**.  Tied to the implementation by the correspondence run `store` of `hx C09`. -/
namespace Gomjml.Store

abbrev Attrs := List (String × String)

/-- a child of `mj-attributes` -/
inductive Entry
  | all (as : Attrs)
  | cls (as : Attrs)                 -- mj-class, `name` among the attributes
  | tag (name : String) (as : Attrs)
deriving Repr

/-! ### Go's `m[k] = v` / `m[k]` on an association list -/

def set : Attrs → String → String → Attrs
  | [], k, v => [(k, v)]
  | (k', v') :: r, k, v => if k' = k then (k, v) :: r else (k', v') :: set r k v

def get : Attrs → String → Option String
  | [], _ => none
  | (k', v') :: r, k => if k' = k then some v' else get r k

theorem get_set (m : Attrs) (k v k' : String) : get (set m k v) k' = if k = k' then some v else get m k' := by
  induction m with
  | nil => rfl
  | cons p r ih => grind [get, set]  -- the head key against `k` and against `k'`

def setAll (m : Attrs) (as : Attrs) : Attrs := as.foldl (fun acc kv => set acc kv.1 kv.2) m

/-- the last definition of `a` in a list of (attribute, value) pairs -/
def lastDef (defs : Attrs) (a : String) : Option String := (defs.reverse.find? (fun kv => kv.1 = a)).map (·.2)

theorem lastDef_append (x y : Attrs) (a : String) : lastDef (x ++ y) a = (lastDef y a).orElse (fun _ => lastDef x a) := by
  unfold lastDef
  rw [List.reverse_append, List.find?_append]
  cases List.find? (fun kv => kv.1 = a) y.reverse <;> rfl

theorem lastDef_single (kv : String × String) (a : String) : lastDef [kv] a = if kv.1 = a then some kv.2 else none := by
  simp only [lastDef, List.reverse_singleton, List.find?_singleton, decide_eq_true_eq]
  split <;> rfl

theorem lastDef_map (g : String → String → String) (as : Attrs) (a : String) :
    lastDef (as.map (fun kv => (kv.1, g kv.1 kv.2))) a = (lastDef as a).map (g a) := by
  unfold lastDef
  rw [← List.map_reverse, List.find?_map, Option.map_map, Option.map_map]
  -- what it finds has key `a`
  show Option.map _ (List.find? (fun kv => decide (kv.fst = a)) as.reverse) = _
  exact Option.map_congr fun kv h => congrArg (g · kv.2)
    (of_decide_eq_true (List.find?_some (p := fun kv : String × String => decide (kv.1 = a)) h))

theorem lastDef_filter (p : String × String → Bool) (as : Attrs) (a : String) (h : ∀ kv, kv.1 = a → p kv = true) :
    lastDef (as.filter p) a = lastDef as a := by
  unfold lastDef
  rw [← List.filter_reverse, List.find?_filter]
  -- the two predicates agree on every row
  congr 2; funext kv; by_cases e : kv.1 = a <;> simp [e, h kv]

/-- **a table after a sequence of writes holds, per attribute, the last value written** -/
theorem get_setAll (as m : Attrs) (a : String) : get (setAll m as) a = (lastDef as a).orElse (fun _ => get m a) :=
  foldl_orElse (rd := (get · a)) (f := fun acc (kv : String × String) => set acc kv.1 kv.2)
    (g := fun kv => lastDef [kv] a) (D := (lastDef · a))
    (fun s x => by rw [get_set, lastDef_single]; split <;> rfl) rfl (fun x r => lastDef_append [x] r a) as m

structure Store where
  all : Attrs
  tags : List (String × Attrs)
  classes : List (String × Attrs)
deriving Repr

/-- `m[key]` in a list of named tables, nil when absent -/
def table (ts : List (String × Attrs)) (key : String) : Attrs :=
  match ts with
  | [] => []
  | (k, t) :: r => if k = key then t else table r key

def putTable : List (String × Attrs) → String → Attrs → List (String × Attrs)
  | [], key, t => [(key, t)]
  | (k, t') :: r, key, t => if k = key then (k, t) :: r else (k, t') :: putTable r key t

theorem table_putTable (ts : List (String × Attrs)) (key : String) (t : Attrs) (key' : String) :
    table (putTable ts key t) key' = if key = key' then t else table ts key' := by
  induction ts with
  | nil => rfl
  | cons p r ih => grind [table, putTable]  -- as `get_set`

theorem get_table_put (ts : List (String × Attrs)) (n t : String) (as : Attrs) (a : String) :
    get (table (putTable ts n (setAll (table ts n) as)) t) a =
      (lastDef (if n = t then as else []) a).orElse (fun _ => get (table ts t) a) := by
  rw [table_putTable]
  split
  · subst_vars; exact get_setAll as _ a
  · rfl

/-- the class name: the value of the first `name` attribute ("" when there is none) -/
def className (as : Attrs) : String := ((as.find? (fun kv => kv.1 = "name")).map (·.2)).getD ""

/-- an mj-class child: without a name it defines nothing -/
def stepCls (s : Store) (as : Attrs) : Store :=
  if className as = "" then s
  else { s with classes := putTable s.classes (className as) (setAll (table s.classes (className as)) (as.filter (fun kv => kv.1 ≠ "name"))) }

/-- `processAttributesElement` for one child -/
def step (s : Store) : Entry → Store
  | .all as => { s with all := setAll s.all as }
  | .tag n as => { s with tags := putTable s.tags n (setAll (table s.tags n) as) }
  | .cls as => stepCls s as

/-- `ProcessAttributesFromHead`: every child of every `mj-attributes` block, in document order -/
def build (blocks : List (List Entry)) : Store := blocks.flatten.foldl step ⟨[], [], []⟩

/-- `GetGlobalAttribute` -/
def globalAttr (s : Store) (tag a : String) : String :=
  match get (table s.tags tag) a with
  | some v => v
  | none => (get s.all a).getD ""

/-- `GetClassAttribute` -/
def classAttr (s : Store) (c a : String) : String := (get (table s.classes c) a).getD ""

/-! ### the Spec: definitions in document order -/

def allDefs : List Entry → Attrs
  | [] => []
  | .all as :: r => as ++ allDefs r
  | _ :: r => allDefs r

def tagDefs (t : String) : List Entry → Attrs
  | [] => []
  | .tag n as :: r => if n = t then as ++ tagDefs t r else tagDefs t r
  | _ :: r => tagDefs t r

def classDefs (c : String) : List Entry → Attrs
  | [] => []
  | .cls as :: r => if className as = c ∧ c ≠ "" then as.filter (fun kv => kv.1 ≠ "name") ++ classDefs c r else classDefs c r
  | _ :: r => classDefs c r

theorem allDefs_cons (e : Entry) (r : List Entry) : allDefs (e :: r) = allDefs [e] ++ allDefs r := by
  cases e <;> simp only [allDefs, List.append_nil, List.nil_append]

theorem tagDefs_cons (t : String) (e : Entry) (r : List Entry) : tagDefs t (e :: r) = tagDefs t [e] ++ tagDefs t r := by
  cases e <;> simp only [tagDefs, List.append_nil, List.nil_append]
  split <;> rfl

theorem classDefs_cons (c : String) (e : Entry) (r : List Entry) : classDefs c (e :: r) = classDefs c [e] ++ classDefs c r := by
  cases e <;> simp only [classDefs, List.append_nil, List.nil_append]
  split <;> rfl

theorem step_all (s : Store) (e : Entry) (a : String) :
    get (step s e).all a = (lastDef (allDefs [e]) a).orElse (fun _ => get s.all a) := by
  cases e with
  | all as => simp only [step, allDefs, List.append_nil]; exact get_setAll as _ a
  | tag n as => rfl
  | cls as => simp only [step, stepCls]; split <;> rfl

theorem step_tags (s : Store) (e : Entry) (t a : String) :
    get (table (step s e).tags t) a = (lastDef (tagDefs t [e]) a).orElse (fun _ => get (table s.tags t) a) := by
  cases e with
  | all as => rfl
  | tag n as => simp only [step, tagDefs, List.append_nil]; exact get_table_put _ n t as a
  | cls as => simp only [step, stepCls]; split <;> rfl

theorem step_classes (s : Store) (e : Entry) (c a : String) :
    get (table (step s e).classes c) a = (lastDef (classDefs c [e]) a).orElse (fun _ => get (table s.classes c) a) := by
  cases e with
  | all as => rfl
  | tag n as => rfl
  | cls as =>
    simp only [step, stepCls, classDefs, List.append_nil]
    -- the model's `if`
    by_cases hn : className as = ""
    · rw [if_pos hn, if_neg (c := className as = c ∧ c ≠ "") (fun h => h.2 (h.1 ▸ hn))]; rfl
    · rw [if_neg hn, get_table_put]
      simp only [and_iff_left_of_imp fun h : className as = c => h ▸ hn]  -- a name equal to `c` makes `c ≠ ""`

theorem fold_spec (es : List Entry) (s : Store) (a : String) :
    get (es.foldl step s).all a = (lastDef (allDefs es) a).orElse (fun _ => get s.all a) ∧
    (∀ t, get (table (es.foldl step s).tags t) a = (lastDef (tagDefs t es) a).orElse (fun _ => get (table s.tags t) a)) ∧
    (∀ c, get (table (es.foldl step s).classes c) a = (lastDef (classDefs c es) a).orElse (fun _ => get (table s.classes c) a)) :=
  ⟨foldl_orElse (rd := fun s => get s.all a) (f := step) (g := _) (D := fun es => lastDef (allDefs es) a)
      (fun s e => step_all s e a) rfl (fun e r => by rw [allDefs_cons, lastDef_append]) es s,
   fun t => foldl_orElse (rd := fun s => get (table s.tags t) a) (f := step) (g := _) (D := fun es => lastDef (tagDefs t es) a)
      (fun s e => step_tags s e t a) rfl (fun e r => by rw [tagDefs_cons, lastDef_append]) es s,
   fun c => foldl_orElse (rd := fun s => get (table s.classes c) a) (f := step) (g := _) (D := fun es => lastDef (classDefs c es) a)
      (fun s e => step_classes s e c a) rfl (fun e r => by rw [classDefs_cons, lastDef_append]) es s⟩

/-- **the store is the Spec**: whatever the head defines, in however many blocks and entries, each lookup returns the last
    definition of that attribute in document order — for the tag if there is one, else for mj-all -/
theorem build_spec (blocks : List (List Entry)) (t c a : String) :
    globalAttr (build blocks) t a = ((lastDef (tagDefs t blocks.flatten) a).orElse (fun _ => lastDef (allDefs blocks.flatten) a)).getD "" ∧
    classAttr (build blocks) c a = (lastDef (classDefs c blocks.flatten) a).getD "" := by
  obtain ⟨h1, h2, h3⟩ := fold_spec blocks.flatten ⟨[], [], []⟩ a
  unfold globalAttr classAttr build
  rw [h2 t, h1, h3 c]
  -- `simp` closes the class half
  simp only [table, get, Option.orElse_eq_or, Option.or_none]
  exact ⟨by cases lastDef (tagDefs t blocks.flatten) a <;> rfl, trivial⟩

end Gomjml.Store
