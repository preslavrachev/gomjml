import Gomjml.Core.CharData
import Gomjml.Core.InlineCss
/-! # Inline content written back as HTML (`(*MJMLNode).GetMixedContent`, `parser/parser.go`)

The content of mj-button, mj-navbar-link, mj-social-element, mj-accordion-title / -text is kept by the parser as a tree (text
runs and inline elements, in order) and serialised again when the component is rendered.  This file holds

* the byte-exact Model of that serialiser (`content`, with the trimming the Go code does at the ends of every level), tied to
  the implementation by the correspondence run `mixed` of `hx C04`;
* its core without the trimming (`serParts`), a reader for the markup it produces (`read`: what a client's tokenizer does
  with it — tags with double-quoted attributes, the three character references in text, `&quot;` in attribute values), and
  the round trip `read_content` (MixedProofs.lean): **every text run, every element, every attribute comes back, once, in
  order, with the value the author wrote**, for every `wfParts` tree;
* the bridge: on `tidy` trees (edge texts begin `plain`, end ASCII and no white space) the Model is its core (`content_tidy`). -/
namespace Gomjml.Mixed
open Gomjml.Amp Gomjml.CharData

inductive Part (α : Type)
  | text (s : List B)
  | node (n : α)
deriving Repr

/-- an inline element: name, attributes in source order, mixed content -/
inductive Node
  | mk (name : List B) (attrs : List (List B × List B)) (parts : List (Part Node))
deriving Repr

/-! ### the serialiser -/

def quot : List B := [38, 113, 117, 111, 116, 59]      -- "&quot;"

/-- `strings.ReplaceAll(value, "\"", "&quot;")` -/
def escQB (b : B) : List B := if b == 34 then quot else [b]
def escQ (v : List B) : List B := v.flatMap escQB

def serAttrs : List (List B × List B) → List B
  | [] => []
  | (k, v) :: r => 32 :: (k ++ (61 :: 34 :: (escQ v ++ (34 :: serAttrs r))))

mutual
  /-- one inline element; a void element is written ` />` and its content is not looked at -/
  def serNode (void : List B → Bool) : Node → List B
    | .mk n a ps =>
      if void n then 60 :: (n ++ (serAttrs a ++ [32, 47, 62]))
      else 60 :: (n ++ (serAttrs a ++ (62 :: (serParts void ps ++ (60 :: 47 :: (n ++ [62]))))))
  def serParts (void : List B → Bool) : List (Part Node) → List B
    | [] => []
    | .text s :: r => escape s ++ serParts void r
    | .node n :: r => serNode void n ++ serParts void r
end

/-! ### the Model of `GetMixedContent`: the same with the trimming the Go code does -/

def asciiWs (b : B) : Bool := b == 32 || b == 10 || b == 13 || b == 9
/-- `strings.TrimLeft(s, " \n\r\t")` / `strings.TrimRight` -/
def trimL (s : List B) : List B := s.dropWhile asciiWs
def trimR (s : List B) : List B := (s.reverse.dropWhile asciiWs).reverse

/-- the loop over the parts: `i` = index of the head part, `n` = number of parts; `inner` = `GetMixedContent` of a child -/
def loop (void : List B → Bool) (inner : List (Part Node) → List B) : List (Part Node) → Nat → Nat → List B
  | [], _, _ => []
  | .text s :: r, i, n =>
    escape ((fun t => if i + 1 = n then trimR t else t) (if i = 0 then trimL s else s)) ++ loop void inner r (i + 1) n
  | .node (.mk nm a kids) :: r, i, n =>
    (if void nm then 60 :: (nm ++ (serAttrs a ++ [32, 47, 62]))
     else 60 :: (nm ++ (serAttrs a ++ (62 :: (inner kids ++ (60 :: 47 :: (nm ++ [62]))))))) ++ loop void inner r (i + 1) n

/-- `GetMixedContent` (fuel = nesting depth + 1): the loop, then `strings.TrimSpace` of the whole.  Go's branch for no parts
    returns the trimmed escaped `Text`: empty for parsed nodes -/
def content (void : List B → Bool) : Nat → List (Part Node) → List B
  | 0, _ => []
  | fuel + 1, ps => Gomjml.InlineCss.trimSpace (loop void (content void fuel) ps 0 ps.length)

mutual
  def depthNode : Node → Nat
    | .mk _ _ ps => 1 + depthParts ps
  def depthParts : List (Part Node) → Nat
    | [] => 0
    | .text _ :: r => depthParts r
    | .node n :: r => max (depthNode n) (depthParts r)
end

/-! ### what is in a tree: the flat list of events, in document order -/

inductive Ev
  | text (s : List B)
  | opn (name : List B) (attrs : List (List B × List B))
  | cls (name : List B)
  | void (name : List B) (attrs : List (List B × List B))
deriving DecidableEq, Repr

mutual
  def evNode (void : List B → Bool) : Node → List Ev
    | .mk n a ps => if void n then [.void n a] else .opn n a :: (evParts void ps ++ [.cls n])
  def evParts (void : List B → Bool) : List (Part Node) → List Ev
    | [] => []
    | .text s :: r => .text s :: evParts void r
    | .node n :: r => evNode void n ++ evParts void r
end

/-! ### the reader -/

def untilB (stop : B → Bool) : List B → List B × List B
  | [] => ([], [])
  | b :: r => if stop b then ([], b :: r) else ((b :: (untilB stop r).1), (untilB stop r).2)

/-- a client's decoding of an attribute value: `&quot;` is a double quote (fuel for the `drop 6`) -/
def unq : Nat → List B → List B
  | 0, s => s
  | _, [] => []
  | fuel + 1, b :: r => if quot.isPrefixOf (b :: r) then 34 :: unq fuel ((b :: r).drop 6) else b :: unq fuel r

/-- attributes up to the end of the start tag: ` key="value"` … then `>` or ` />` (the flag says which) -/
def readAttrs : Nat → List B → Option (List (List B × List B) × Bool × List B)
  | 0, _ => none
  | _ + 1, [] => none
  | fuel + 1, b :: r =>
    if b == 62 then some ([], false, r)
    else if b == 32 then
      if [47, 62].isPrefixOf r then some ([], true, r.drop 2)
      else
        match (untilB (· == 61) r).2 with
        | 61 :: 34 :: r2 =>
          match (untilB (· == 34) r2).2 with
          | 34 :: r4 =>
            match readAttrs fuel r4 with
            | some (as, vd, rr) =>
              some (((untilB (· == 61) r).1, unq (untilB (· == 34) r2).1.length (untilB (· == 34) r2).1) :: as, vd, rr)
            | none => none
          | _ => none
        | _ => none
    else none

def nameStop (b : B) : Bool := b == 32 || b == 62

/-- a start tag behind its `<` -/
def readOpen (r : List B) : Option (Ev × List B) :=
  match readAttrs ((untilB nameStop r).2.length + 1) (untilB nameStop r).2 with
  | some (a, vd, r2) => some (if vd then .void (untilB nameStop r).1 a else .opn (untilB nameStop r).1 a, r2)
  | none => none

/-- an end tag behind its `</` -/
def readClose (r : List B) : Option (Ev × List B) :=
  match (untilB (· == 62) r).2 with
  | 62 :: r2 => some (.cls (untilB (· == 62) r).1, r2)
  | _ => none

def readText (s : List B) : Option (Ev × List B) :=
  some (.text (unescape (untilB (· == 60) s).1.length (untilB (· == 60) s).1), (untilB (· == 60) s).2)

/-- one token from the front of the input -/
def readTok : List B → Option (Ev × List B)
  | [] => none
  | b :: r =>
    if b == 60 then
      match r with
      | [] => none
      | c :: r' => if c == 47 then readClose r' else readOpen (c :: r')
    else readText (b :: r)

/-- the whole input as a list of events -/
def read (s : List B) : Option (List Ev) :=
  if s = [] then some []
  else match readTok s with
    | some (e, r) => if r.length < s.length then (read r).map (e :: ·) else none
    | none => none
termination_by s.length

/-! ### well-formed trees: what the XML layer hands over -/

/-- an element name: not empty, does not start with `/`, no blank, no `>` -/
def wfName (n : List B) : Bool := n != [] && n.head? != some 47 && n.all (fun b => !nameStop b)
/-- an attribute name: does not start with `/`, no `=` -/
def wfKey (k : List B) : Bool := k.head? != some 47 && k.all (· != 61)
/-- an attribute value the round trip is claimed for: no ampersand (see `C04_inline_value_counterexample`) -/
def wfVal (v : List B) : Bool := v.all (· != 38)
def wfAttrs (a : List (List B × List B)) : Bool := a.all fun kv => wfKey kv.1 && wfVal kv.2

mutual
  def wfNode : Node → Bool
    | .mk n a ps => wfName n && wfAttrs a && wfParts false ps
  /-- text runs are not empty and never adjacent (the parser merges adjacent character data); the flag: the previous part was text -/
  def wfParts : Bool → List (Part Node) → Bool
    | _, [] => true
    | prev, .text s :: r => !prev && s != [] && wfParts true r
    | _, .node n :: r => wfNode n && wfParts false r
end

mutual
  def szNode : Node → Nat
    | .mk _ _ ps => 1 + szParts ps
  def szParts : List (Part Node) → Nat
    | [] => 0
    | .text _ :: r => 1 + szParts r
    | .node n :: r => 1 + szNode n + szParts r
end

end Gomjml.Mixed
