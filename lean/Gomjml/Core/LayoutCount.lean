import Gomjml.Core.Layout
/-! Content accounting for the layout model: the rendered skeleton has as many content tokens `t` as the document has content
    slots (the "exactly once" half of C04).  Only counts are proved, tokens carry no identity; that order is kept is read off
    the emitters, which concatenate their children in document order. -/
namespace Gomjml.Layout
open Tok Tag

def cnt (ts : List Tok) : Nat := ts.count Tok.t

@[simp] theorem cnt_append (a b : List Tok) : cnt (a ++ b) = cnt a + cnt b := by simp [cnt, List.count_append]
@[simp] theorem cnt_nil : cnt [] = 0 := rfl
@[simp] theorem cnt_cons (x : Tok) (r : List Tok) : cnt (x :: r) = cnt r + if x = Tok.t then 1 else 0 := by
  simp [cnt, List.count_cons]
/-- the form `simp` meets: a compound `b = true` is a proposition by then -/
@[simp] theorem cnt_if (c : Prop) [Decidable c] (x y : List Tok) : cnt (if c then x else y) = if c then cnt x else cnt y :=
  apply_ite cnt c x y
@[simp] theorem cnt_ite (b : Bool) (x y : List Tok) : cnt (if b then x else y) = if b then cnt x else cnt y :=
  cnt_if _ x y

def Leaf.slots : Leaf → Nat := fun _ => 1
def rawSlots (blank : Bool) : Nat := if blank then 0 else 1
def Column.slots (col : Column) : Nat := col.leaves.length
def GChild.slots : GChild → Nat
  | .col cl => cl.slots
  | .raw b => rawSlots b
def gSlots (g : List GChild) : Nat := (g.map GChild.slots).sum
def SChild.slots : SChild → Nat
  | .col cl => cl.slots
  | .group g => gSlots g
  | .raw b => rawSlots b
def kSlots (ks : List SChild) : Nat := (ks.map SChild.slots).sum
def Section.slots (s : Section) : Nat := if s.kids.isEmpty then (if s.txt then 1 else 0) else kSlots s.kids
def WChild.slots : WChild → Nat
  | .sec s => s.slots
  | .raw b => rawSlots b
def Block.slots : Block → Nat
  | .section s => s.slots
  | .wrapper w => (w.kids.map WChild.slots).sum
  | .hero ls => ls.length
  | .raw b => rawSlots b

theorem cnt_leaf (l : Leaf) : cnt l.toks = 1 := by cases l <;> rfl

theorem cnt_leaves (ls : List Leaf) : cnt (ls.flatMap Leaf.toks) = ls.length := by
  induction ls with
  | nil => rfl
  | cons l r ih => rw [List.flatMap_cons, cnt_append, cnt_leaf, ih, List.length_cons, Nat.add_comm]

theorem cnt_raw (b : Bool) : cnt (rawToks b) = rawSlots b := by cases b <;> rfl

theorem cnt_column (cl : Column) : cnt cl.toks = cl.slots := by
  simp [Column.toks, colPre, colPost, cnt_leaves, Column.slots]

theorem cnt_gKids : ∀ (first : Bool) (rem : Nat) (ks : List GChild), cnt (gKids first rem ks) = gSlots ks
  | _, _, [] => rfl
  | first, rem, .raw b :: r => by
    simp [gKids, cnt_raw, gSlots, GChild.slots, cnt_gKids first rem r]
  | first, rem, .col cl :: r => by
    simp [gKids, cnt_column, cnt_gKids false (rem - 1) r, gSlots, GChild.slots]

theorem cnt_group (g : List GChild) : cnt (groupToks g) = gSlots g := by
  simp [groupToks, cnt_gKids]

theorem cnt_sharedKids : ∀ (opened : Bool) (ks : List SChild), cnt (sharedKids opened ks) = kSlots ks
  | opened, [] => by simp [sharedKids, kSlots]
  | opened, .raw b :: r => by simp [sharedKids, cnt_raw, kSlots, SChild.slots, cnt_sharedKids opened r]
  | opened, .group g :: r => by simp [sharedKids, cnt_group, kSlots, SChild.slots, cnt_sharedKids opened r]
  | opened, .col cl :: r => by
    simp [sharedKids, cnt_column, cnt_sharedKids true r, kSlots, SChild.slots]

theorem cnt_soloKids (split : Bool) : ∀ (ks : List SChild), cnt (soloKids split ks) = kSlots ks
  | [] => rfl
  | .raw b :: r => by simp [soloKids, cnt_raw, kSlots, SChild.slots, cnt_soloKids split r]
  | .group g :: r => by simp [soloKids, cnt_group, kSlots, SChild.slots, cnt_soloKids split r]
  | .col cl :: r => by
    simp [soloKids, cnt_column, cnt_soloKids split r, kSlots, SChild.slots]

theorem cnt_colsToks (split txt : Bool) (ks : List SChild) :
    cnt (colsToks split txt ks) = if ks.isEmpty then (if txt then 1 else 0) else kSlots ks := by
  simp [colsToks, cnt_soloKids, cnt_sharedKids]

theorem cnt_inner (bg split txt : Bool) (ks : List SChild) :
    cnt (innerToks bg split txt ks) = if ks.isEmpty then (if txt then 1 else 0) else kSlots ks := by
  simp [innerToks, innerPre, innerPost, cnt_colsToks]

theorem cnt_secPre (fw bg single pending : Bool) : cnt (secPre fw bg single pending) = 0 := by
  simp [secPre]
theorem cnt_secPost (fw bg more : Bool) : cnt (secPost fw bg more) = 0 := by
  simp [secPost]

theorem cnt_section (s : Section) (p more : Bool) : cnt (s.emit p more).1 = s.slots := by
  simp [Section.emit, emitToks, cnt_secPre, cnt_secPost, cnt_inner, Section.slots]

theorem cnt_emitIW (fw bg wmb single txt : Bool) (ks : List SChild) :
    cnt (emitIW fw bg wmb single txt ks) = if ks.isEmpty then (if txt then 1 else 0) else kSlots ks := by
  simp [emitIW, cnt_inner]

theorem cnt_rowClose (d : Depth) : cnt (rowClose d) = 0 := by cases d <;> rfl
theorem cnt_rowOpen (b : Bool) : cnt (rowOpen b) = 0 := by cases b <;> rfl

theorem cnt_wKids (fs dl wb : Bool) : ∀ (d : Depth) (p : Prev) (ks : List WChild),
    cnt (wKids fs dl wb d p ks).1 = (ks.map WChild.slots).sum
  | _, _, [] => rfl
  | d, p, .raw b :: r => by
    simp [wKids, cnt_wKids fs dl wb d .raw r, cnt_raw, cnt_rowClose, cnt_rowOpen, WChild.slots]
  | d, p, .sec s :: r => by
    have ih := fun d' => cnt_wKids fs dl wb d' (.sec s.fw) r
    cases p <;> simp [wKids, ih, cnt_emitIW, WChild.slots, Section.slots, cnt_rowClose, cnt_rowOpen]

theorem cnt_openToks (d : Depth) : cnt d.openToks = 0 := by cases d <;> rfl
theorem cnt_closeToks (d : Depth) : cnt d.closeToks = 0 := by
  simp [Depth.closeToks, cnt_rowClose]

theorem cnt_wrapper (w : Wrapper) (p : Bool) : cnt (w.toks p) = (w.kids.map WChild.slots).sum := by
  simp [Wrapper.toks, Wrapper.mid, wPre, wPost, cnt_wKids, cnt_openToks, cnt_closeToks]

theorem cnt_hero (ls : List Leaf) : cnt (heroToks ls) = ls.length := by
  simp [heroToks, heroPre, heroPost, cnt_leaves]

theorem cnt_bodyFlat : ∀ (bs : List Block) (p : Bool), cnt (bodyFlat bs p) = (bs.map Block.slots).sum
  | [], _ => rfl
  | .section s :: rest, p => by
    simpa [bodyFlat, blockOuts, cnt_section, Block.slots] using cnt_bodyFlat rest _
  | .wrapper w :: rest, p => by
    simpa [bodyFlat, blockOuts, cnt_wrapper, Block.slots] using cnt_bodyFlat rest false
  | .hero ls :: rest, p => by
    simpa [bodyFlat, blockOuts, cnt_hero, Block.slots] using cnt_bodyFlat rest p
  | .raw b :: rest, p => by
    simpa [bodyFlat, blockOuts, Block.slots, rawSlots] using cnt_bodyFlat rest p

theorem cnt_bodyLoop (bs : List Block) (p : Bool) : cnt (bodyLoop bs p) = (bs.map Block.slots).sum :=
  join_of_flatten (P := fun ts => cnt ts = (bs.map Block.slots).sum) (fun xs ys h => by simpa using h) (blockOuts bs p)
    (pre := []) (held := []) (cnt_bodyFlat bs p)

theorem content_count (bs : List Block) : cnt (render bs) = (bs.map Block.slots).sum := by
  simp [render, cnt_bodyLoop]

end Gomjml.Layout
