import Gomjml.Core.Amp
/-! # C19 — the inline-style scanner's per-tag step (`inlineStylesInTag` in mjml/components/inline_html.go)

Byte-exact (`strings.EqualFold` / `strings.TrimSpace` as ASCII letters / ` \t\n\r` only), control-flow-faithful model of `parseTag`
and of the write-back: a start tag is cut into its name and a list of
attributes (white space in front, the attribute as written, name, value, quote), the declarations of the targeted classes are
merged into the style attribute (or a style attribute is appended) and the tag is written back — untouched attributes with the
bytes they were written with.  The model also keeps what the loop did NOT consume (`rest`), which the Go code ignores: a parse is
`clean` when that is just the closing `>`.  The write-back is proved to keep every attribute but the style attribute as written
(InlineTagProofs.lean; `Props.C19`).  Tied to the implementation by running both on the same tags (driver `inltag`). -/
namespace Gomjml.InlineTag
open Gomjml.Amp

def slash : B := 47
def eqs : B := 61
def isSp (b : B) : Bool := b == 32 || b == 10 || b == 13 || b == 9

structure Attr where
  pre : List B        -- white space in front of the attribute
  name : List B
  value : List B
  quote : B           -- 0 = written without quotes
  hasValue : Bool
  raw : List B        -- the attribute exactly as written; [] once it has been rewritten
deriving Repr, DecidableEq

/-- how the attribute loop ended -/
inductive Ending
  | gt                         -- at `>` (or at the end of the text)
  | slash (suffix : List B)    -- at `/`: self-closing, `suffix` = white space in front of the slash ++ "/"
  | badName                    -- an attribute name was expected and none found
deriving Repr, DecidableEq

structure Parsed where
  name : List B
  attrs : List Attr
  ending : Ending
  /-- bytes the loop did not look at: from the white space in front of the stopping point (`gt`, `badName`), or behind the
      slash and the white space after it (`slash`) -/
  rest : List B
deriving Repr, DecidableEq

/-- an unquoted value ends at white space or `>`; a `/` directly in front of `>` is the self-closing mark -/
def spanUnq : List B → List B × List B
  | [] => ([], [])
  | b :: r =>
    if isSp b || b == gt then ([], b :: r)
    else if b == slash && r.head? == some gt then ([], b :: r)
    else let (v, rest) := spanUnq r; (b :: v, rest)

def isNameByte (b : B) : Bool := !isSp b && b != eqs && b != gt && b != slash
def isTagNameByte (b : B) : Bool := !isSp b && b != gt && b != slash

/-- the value part behind an attribute name: `(value, quote, hasValue, remaining)`; `r1` = text directly behind the name -/
def parseValue (r1 : List B) : List B × B × Bool × List B :=
  match r1.dropWhile isSp with
  | e :: r3 =>
    if e == eqs then
      match r3.dropWhile isSp with
      | q :: r5 =>
        if q == dq || q == sq then
          (r5.takeWhile (· != q), q, true, (r5.dropWhile (· != q)).drop 1)
        else
          let (v, rest) := spanUnq (q :: r5)
          (v, 0, true, rest)
      | [] => ([], 0, true, [])
    else ([], 0, false, r1)     -- no '=': the white space behind the name belongs to what follows
  | [] => ([], 0, false, r1)

/-- the attribute loop of `parseTag`; `s` = text behind the tag name -/
def loop : Nat → List B → List Attr → List Attr × Ending × List B
  | 0, s, acc => (acc.reverse, .gt, s)
  | fuel + 1, s, acc =>
    let pre := s.takeWhile isSp
    match s.dropWhile isSp with
    | [] => (acc.reverse, .gt, s)
    | b :: r =>
      if b == gt then (acc.reverse, .gt, s)
      else if b == slash then (acc.reverse, .slash (pre ++ [slash]), r.dropWhile isSp)
      else
        let nm := (b :: r).takeWhile isNameByte
        let r1 := (b :: r).dropWhile isNameByte
        if nm == [] then (acc.reverse, .badName, s)
        else
          let (v, q, hv, rest) := parseValue r1
          let raw := (b :: r).take ((b :: r).length - rest.length)
          loop fuel rest (⟨pre, nm, v, q, hv, raw⟩ :: acc)

/-- `parseTag`: `none` when the text does not start with `<` followed by a tag name -/
def parse (tag : List B) : Option Parsed :=
  match tag with
  | l :: r =>
    if l == lt && r.length ≥ 1 then
      let r0 := r.dropWhile isSp
      let nm := r0.takeWhile isTagNameByte
      if nm == [] then none
      else
        let (attrs, e, rest) := loop (r0.length + 1) (r0.dropWhile isTagNameByte) []
        some ⟨nm, attrs, e, rest⟩
    else none
  | [] => none

def trimRight (s : List B) : List B := (s.reverse.dropWhile isSp).reverse

/-- is the tag self-closing, and with which suffix?  (`parseTag`'s two ways of deciding) -/
def closing (tag : List B) (p : Parsed) : List B :=
  match p.ending with
  | .slash suffix => suffix
  | _ =>
    -- decided on the text: the trimmed tag ends with "/>"
    let t := trimRight (tag.dropWhile isSp)
    if [slash, gt].isSuffixOf t then
      (if [32, slash, gt].isSuffixOf tag then [32, slash, gt] else [slash])
    else []

def emitAttr (a : Attr) : List B :=
  a.pre ++ (if a.raw != [] then a.raw
            else a.name ++ (if a.hasValue then [eqs] ++ [if a.quote == 0 then dq else a.quote] ++ a.value ++ [if a.quote == 0 then dq else a.quote] else []))

/-- the write-back -/
def rebuild (name : List B) (attrs : List Attr) (close : List B) : List B :=
  [lt] ++ name ++ attrs.flatMap emitAttr ++ close ++ [gt]

def lowerB (b : B) : B := if b ≥ 65 && b ≤ 90 then b + 32 else b
def nameIs (n : List B) (a : Attr) : Bool := a.name.map lowerB == n
def classN : List B := [99, 108, 97, 115, 115]
def styleN : List B := [115, 116, 121, 108, 101]

def trimB (s : List B) : List B := trimRight (s.dropWhile isSp)

/-- `mergeInlineStyleValues` -/
def mergeStyle (existing inline : List B) : List B :=
  if existing == [] then inline
  else if inline == [] then existing
  else
    let e := trimB existing
    let i := trimB inline
    if e == [] then i
    else if i == [] then e
    else (if [semi].isSuffixOf e then e else e ++ [semi]) ++ i

/-- index of the LAST attribute with the given (case-insensitive) name -/
def lastIdx (n : List B) (attrs : List Attr) : Option Nat :=
  (attrs.zipIdx.filter (fun p => nameIs n p.1)).getLast?.map (·.2)

/-- `inlineStylesInTag`; `inl` = declarations for a class attribute value (`BuildInlineStyleString`) -/
def inlineTag (inl : List B → List B) (tag : List B) : List B :=
  match parse tag with
  | none => tag
  | some p =>
    if p.attrs == [] then tag
    else match lastIdx classN p.attrs with
      | none => tag
      | some ci =>
        let d := inl (p.attrs[ci]?.map (·.value) |>.getD [])
        if d == [] then tag
        else
          let attrs' := match lastIdx styleN p.attrs with
            | some si => p.attrs.modify si (fun a => { a with value := mergeStyle a.value d, hasValue := true, raw := [] })
            | none => p.attrs ++ [⟨[32], styleN, d, dq, true, []⟩]
          rebuild p.name attrs' ((closing tag p))

/-- a parse that looked at every byte: the loop stopped at the closing `>` -/
def Parsed.clean (p : Parsed) : Bool :=
  match p.ending with
  | .gt => p.rest.dropWhile isSp == [gt]
  | .slash _ => p.rest == [gt]
  | .badName => false

end Gomjml.InlineTag
