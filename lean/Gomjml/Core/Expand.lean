import Gomjml.Spec.Html
/-! The Spec checkers as such: what a checker is (`Step`, `Checks`), the substitution principle (`expand_spec`), the stack effect
of a fragment (`Leaves.MovesM` …, under the `Gomjml.Leaves` names the component proofs use).  No layout model here. -/
namespace Gomjml.Expand
open Gomjml.Spec

theorem runE_append (step : VS → GTok → Except String VS) (s : VS) (xs ys : List GTok) :
    runE step s (xs ++ ys) = (match runE step s xs with | .ok s' => runE step s' ys | .error e => .error e) := by
  induction xs generalizing s with
  | nil => simp [runE]
  | cons x xs ih =>
    simp only [List.cons_append, runE]
    cases step s x with
    | ok s' => exact ih s'
    | error e => rfl

theorem runE_cons_ok {step} {s s' : VS} {x : GTok} (h : step s x = .ok s') (r : List GTok) : runE step s (x :: r) = runE step s' r := by
  simp only [runE, h]

theorem runE_cons_eq_ok {step} {s r' : VS} {x : GTok} {r : List GTok} :
    runE step s (x :: r) = .ok r' ↔ ∃ s1, step s x = .ok s1 ∧ runE step s1 r = .ok r' := by
  simp only [runE]
  cases step s x with
  | ok s1 => exact ⟨fun h => ⟨s1, rfl, h⟩, fun ⟨_, h1, h⟩ => by cases h1; exact h⟩
  | error e => exact ⟨nofun, fun ⟨_, h1, _⟩ => nomatch h1⟩

theorem runE_append_ok {step} {s s' : VS} {xs : List GTok} (h : runE step s xs = .ok s') (ys : List GTok) :
    runE step s (xs ++ ys) = runE step s' ys := by
  rw [runE_append, h]

def InertFor (step : VS → GTok → Except String VS) (xs : List GTok) : Prop := ∀ st, runE step ⟨0, st⟩ xs = .ok ⟨0, st⟩

def Inert (xs : List GTok) : Prop := InertFor stdStep xs ∧ InertFor msoStep xs ∧ InertFor visStep xs


theorem visible_iff {ts : List GTok} : Visible ts ↔ ∃ r, runE visStep start ts = .ok r := by
  unfold Visible
  cases runE visStep start ts with
  | ok r => exact ⟨fun _ => ⟨r, rfl⟩, fun _ => rfl⟩
  | error e => exact ⟨nofun, nofun⟩

/-- the fragments, in order, for the content tokens (one left without a fragment stays) -/
def expand : List (List GTok) → List GTok → List GTok
  | _, [] => []
  | f :: fs, .t _ :: r => f ++ expand fs r
  | fs, x :: r => x :: expand fs r

def isT : GTok → Bool
  | .t _ => true
  | _ => false

/-! The three checkers share the automaton of the markers.  They differ in the modes in which they follow tags on their stack
(`live`: standard clients outside Outlook conditionals, Outlook outside not-Outlook blocks, the visibility check never), in refusing
Outlook-only elements there (`vml`: standard clients) and content inside an Outlook conditional (`hide`: the visibility check). -/

inductive Step (live : Nat → Bool) (vml hide : Bool) : VS → GTok → VS → Prop
  | co {st} : Step live vml hide ⟨0, st⟩ .co ⟨1, st⟩
  | cc {st} : Step live vml hide ⟨1, st⟩ .cc ⟨0, st⟩
  | nco {st} : Step live vml hide ⟨0, st⟩ .nco ⟨2, st⟩
  | ncc {st} : Step live vml hide ⟨2, st⟩ .ncc ⟨0, st⟩
  | t {m st str} (h : hide = true → m ≠ 1) : Step live vml hide ⟨m, st⟩ (.t str) ⟨m, st⟩
  | v {m st oo n} (h : vml = true → live m = true → oo = false) : Step live vml hide ⟨m, st⟩ (.v oo n) ⟨m, st⟩
  | push {m st oo n} (hl : live m = true) (h : vml = true → oo = false) : Step live vml hide ⟨m, st⟩ (.o oo n) ⟨m, n :: st⟩
  | pop {m st oo n} (hl : live m = true) : Step live vml hide ⟨m, n :: st⟩ (.c oo n) ⟨m, st⟩
  | skipO {m st oo n} (hl : live m = false) : Step live vml hide ⟨m, st⟩ (.o oo n) ⟨m, st⟩
  | skipC {m st oo n} (hl : live m = false) : Step live vml hide ⟨m, st⟩ (.c oo n) ⟨m, st⟩

structure Checks (step : VS → GTok → Except String VS) (live : Nat → Bool) (vml hide : Bool) : Prop where
  spec : ∀ {s x s'}, step s x = .ok s' ↔ Step live vml hide s x s'

def isMarker : GTok → Bool
  | .co | .cc | .nco | .ncc => true
  | _ => false

theorem markers_step {live vml hide} {s s' : VS} {x : GTok} (hx : isMarker x = true) (h : markers s x = .ok s') :
    Step live vml hide s x s' := by
  obtain ⟨m, st⟩ := s
  cases x <;> cases hx
  -- a marker succeeds in one mode only: its constructor's
  all_goals
    simp only [markers] at h
    split at h
    · rename_i hm; cases hm; cases h; constructor
    · cases h

theorem pop_step {live vml hide} {m : Nat} {st : List String} {s' : VS} {oo : Bool} {n e : String} (hl : live m = true)
    (h : pop ⟨m, st⟩ n e = .ok s') : Step live vml hide ⟨m, st⟩ (.c oo n) s' := by
  cases st with
  | nil => cases h
  | cons k r =>
    simp only [pop] at h
    split at h
    · rename_i hk; cases hk; cases h; exact .pop hl
    · cases h

theorem std_checks : Checks stdStep (· != 1) true false := by
  refine ⟨@fun s x s' => ⟨fun h => ?_, fun h => ?_⟩⟩
  · -- each succeeding branch of `stdStep` is one constructor
    obtain ⟨m, st⟩ := s
    cases x with
    | o oo n =>
      simp only [stdStep] at h
      split at h
      · rename_i hm; cases h; exact .skipO (bne_eq_false_iff_eq.mpr hm)
      · rename_i hm
        split at h
        · cases h
        · rename_i hoo; cases h; exact .push (bne_iff_ne.mpr hm) (fun _ => Bool.eq_false_iff.mpr hoo)
    | c oo n =>
      simp only [stdStep] at h
      split at h
      · rename_i hm; cases h; exact .skipC (bne_eq_false_iff_eq.mpr hm)
      · rename_i hm; exact pop_step (bne_iff_ne.mpr hm) h
    | v oo n =>
      simp only [stdStep] at h
      split at h
      · cases h
      · rename_i hc; cases h; exact .v fun _ hl => by
          cases oo
          · rfl
          · exact absurd (by simpa using hl) hc
    | t str => cases h; exact .t nofun
    | co | cc | nco | ncc => exact markers_step rfl h
  · -- and back
    cases h with
    | co | cc | nco | ncc | t => rfl
    | @v m st oo n h => cases oo <;> simp_all [stdStep]
    | push => simp_all [stdStep]
    | pop => simp_all [stdStep, pop]
    | skipO | skipC => simp_all [stdStep]

theorem mso_checks : Checks msoStep (· != 2) false false := by
  refine ⟨@fun s x s' => ⟨fun h => ?_, fun h => ?_⟩⟩
  · obtain ⟨m, st⟩ := s
    cases x with
    | o oo n =>
      simp only [msoStep] at h
      split at h
      · rename_i hm; cases h; exact .skipO (bne_eq_false_iff_eq.mpr hm)
      · rename_i hm; cases h; exact .push (bne_iff_ne.mpr hm) nofun
    | c oo n =>
      simp only [msoStep] at h
      split at h
      · rename_i hm; cases h; exact .skipC (bne_eq_false_iff_eq.mpr hm)
      · rename_i hm; exact pop_step (bne_iff_ne.mpr hm) h
    | v oo n => cases h; exact .v nofun
    | t str => cases h; exact .t nofun
    | co | cc | nco | ncc => exact markers_step rfl h
  · cases h with
    | co | cc | nco | ncc | t | v => rfl
    | push => simp_all [msoStep]
    | pop => simp_all [msoStep, pop]
    | skipO | skipC => simp_all [msoStep]

theorem vis_checks : Checks visStep (fun _ => false) false true := by
  refine ⟨@fun s x s' => ⟨fun h => ?_, fun h => ?_⟩⟩
  · obtain ⟨m, st⟩ := s
    cases x with
    | o oo n => cases h; exact .skipO rfl
    | c oo n => cases h; exact .skipC rfl
    | v oo n => cases h; exact .v nofun
    | t str =>
      simp only [visStep] at h
      split at h
      · cases h
      · rename_i hm; cases h; exact .t fun _ => hm
    | co | cc | nco | ncc => exact markers_step rfl h
  · cases h with
    | t h => exact if_neg (h rfl)
    | push hl | pop hl => cases hl
    | _ => rfl

/-- `none`: a marker out of place -/
def nextMode (m : Nat) (x : GTok) : Option Nat :=
  match markers ⟨m, []⟩ x with
  | .ok s => some s.mode
  | .error _ => none

theorem Step.mode {live vml hide} {s s' : VS} {x : GTok} (h : Step live vml hide s x s') : nextMode s.mode x = some s'.mode := by
  cases h <;> rfl

theorem Step.frame {live vml hide} {s s' : VS} {x : GTok} (h : Step live vml hide s x s') (ex : List String) :
    Step live vml hide ⟨s.mode, s.stack ++ ex⟩ x ⟨s'.mode, s'.stack ++ ex⟩ := by
  cases h <;> constructor <;> assumption

/-- without `nco` the mode stays 0 or 1 -/
theorem Step.mode_le {live vml hide} {s s' : VS} {x : GTok} (h : Step live vml hide s x s') (hx : x ≠ .nco) (hm : s.mode ≤ 1) : s'.mode ≤ 1 := by
  cases h with
  | nco => exact absurd rfl hx
  | co => exact Nat.le_refl 1
  | cc | ncc => exact Nat.zero_le 1
  | _ => exact hm

theorem Checks.t_outside {step live vml hide} (hc : Checks step live vml hide) (st : List String) (str : String) :
    step ⟨0, st⟩ (.t str) = .ok ⟨0, st⟩ := hc.spec.mpr (.t fun _ => Nat.zero_ne_one)


/-- content only in mode 0, no marker out of place -/
def slotsOutside : Nat → List GTok → Bool
  | _, [] => true
  | m, x :: r => (!isT x || m == 0) && (match nextMode m x with | some m' => slotsOutside m' r | none => false)

theorem expand_run {step live vml hide} (hc : Checks step live vml hide) (fs : List (List GTok)) (ts : List GTok) :
    ∀ (s r : VS), (∀ f ∈ fs, InertFor step f) → slotsOutside s.mode ts = true → runE step s ts = .ok r →
      runE step s (expand fs ts) = .ok r := by
  fun_induction expand fs ts with
  | case1 => exact fun _ _ _ _ h => h
  | case2 f fs str ts ih =>
    -- in mode 0 neither the token nor the fragment changes anything
    intro ⟨m, st⟩ r hf hs h
    obtain ⟨s1, hx, h⟩ := runE_cons_eq_ok.mp h
    -- `Step.mode` rewrites the `match nextMode …` of `slotsOutside`
    simp only [slotsOutside, (hc.spec.mp hx).mode, isT, Bool.not_true, Bool.false_or, Bool.and_eq_true, beq_iff_eq] at hs
    obtain ⟨rfl, hs⟩ := hs
    rw [hc.t_outside] at hx; cases hx
    rw [runE_append_ok (hf f List.mem_cons_self st)]
    exact ih _ r (fun g hg => hf g (List.mem_cons_of_mem _ hg)) hs h
  | case3 fs x ts _ ih =>
    intro s r hf hs h
    obtain ⟨s1, hx, h⟩ := runE_cons_eq_ok.mp h
    simp only [slotsOutside, (hc.spec.mp hx).mode, Bool.and_eq_true] at hs
    exact (runE_cons_ok hx _).trans (ih s1 r hf hs.2 h)

/-- contains no `nco` / `ncc` -/
def noNot : List GTok → Bool
  | [] => true
  | .nco :: _ => false
  | .ncc :: _ => false
  | _ :: r => noNot r

theorem noNot_cons {x : GTok} {r : List GTok} (h : noNot (x :: r) = true) : x ≠ .nco ∧ noNot r = true := by
  cases x <;> first | cases h | exact ⟨nofun, h⟩

/-- `Visible` excludes content in mode 1 only, `noNot` keeps the mode ≤ 1 (`Step.mode_le`): a passed content token stands in
    mode 0.  `expand_spec` needs `noNot` for this alone. -/
theorem slots_of_visible : ∀ (ts : List GTok) (m : Nat) (st : List String) (r : VS), m ≤ 1 → noNot ts = true →
    runE visStep ⟨m, st⟩ ts = .ok r → slotsOutside m ts = true
  | [], _, _, _, _, _, _ => rfl
  | x :: xs, m, st, r, hm, hn, hv => by
    obtain ⟨s1, hx, hv⟩ := runE_cons_eq_ok.mp hv
    have hstep := vis_checks.spec.mp hx
    have ih := slots_of_visible xs s1.mode s1.stack r (hstep.mode_le (noNot_cons hn).1 hm) (noNot_cons hn).2 hv
    have ht : (!isT x || m == 0) = true := by
      cases x <;> try rfl
      simp only [visStep] at hx
      split at hx
      · cases hx
      · simp only [isT, Bool.not_true, Bool.false_or, beq_iff_eq]; omega
    simp only [slotsOutside, hstep.mode, ht, ih, Bool.and_self]

/-- inert fragments in the slots of a skeleton (without `nco` / `ncc`) keep the three properties -/
theorem expand_spec (ts : List GTok) (fs : List (List GTok)) (hn : noNot ts = true) (hf : ∀ f ∈ fs, Inert f)
    (hstd : StdWF ts) (hmso : MsoWF ts) (hvis : Visible ts) :
    StdWF (expand fs ts) ∧ MsoWF (expand fs ts) ∧ Visible (expand fs ts) := by
  obtain ⟨r, hr⟩ := visible_iff.mp hvis
  have hs : slotsOutside 0 ts = true := slots_of_visible ts 0 [] r (Nat.zero_le 1) hn hr
  exact ⟨expand_run std_checks fs ts start start (fun f h => (hf f h).1) hs hstd,
         expand_run mso_checks fs ts start start (fun f h => (hf f h).2.1) hs hmso,
         visible_iff.mpr ⟨r, expand_run vis_checks fs ts start r (fun f h => (hf f h).2.2) hs hr⟩⟩

end Gomjml.Expand

namespace Gomjml.Leaves
open Gomjml.Spec Gomjml.Expand

/-- from mode `m0` with `S0` on top of the stack to mode `m1` with `S1` in its place, whatever lies below -/
def MovesM (step : VS → GTok → Except String VS) (m0 : Nat) (S0 : List String) (m1 : Nat) (S1 : List String) (xs : List GTok) : Prop :=
  ∀ st, runE step ⟨m0, S0 ++ st⟩ xs = .ok ⟨m1, S1 ++ st⟩

abbrev Moves (step : VS → GTok → Except String VS) (S0 S1 : List String) (xs : List GTok) : Prop := MovesM step 0 S0 0 S1 xs

/-- `Bal step 0`, `Moves step [] []` and `InertFor step` unfold to the same -/
abbrev Bal (step : VS → GTok → Except String VS) (m : Nat) (xs : List GTok) : Prop := MovesM step m [] m [] xs

theorem moves_of_inert {step} {xs : List GTok} (h : InertFor step xs) : Moves step [] [] xs := h

theorem movesM_append {step} {m0 m1 m2 : Nat} {S0 S1 S2 : List String} {xs ys : List GTok}
    (h1 : MovesM step m0 S0 m1 S1 xs) (h2 : MovesM step m1 S1 m2 S2 ys) : MovesM step m0 S0 m2 S2 (xs ++ ys) :=
  fun st => (runE_append_ok (h1 st) ys).trans (h2 st)

theorem movesM_nil (step) (m : Nat) (S : List String) : MovesM step m S m S [] := fun _ => rfl

theorem movesM_flatMap {step} {α} (m : Nat) (S : List String) (f : α → List GTok) (l : List α) (h : ∀ a ∈ l, MovesM step m S m S (f a)) :
    MovesM step m S m S (l.flatMap f) := by
  induction l with
  | nil => exact movesM_nil _ _ _
  | cons a l ih =>
    rw [List.flatMap_cons]
    exact movesM_append (h a List.mem_cons_self) (ih fun b hb => h b (List.mem_cons_of_mem _ hb))

-- here, being `movesM_*` at the three checkers
theorem _root_.Gomjml.Expand.inert_nil : Inert [] := ⟨movesM_nil _ 0 [], movesM_nil _ 0 [], movesM_nil _ 0 []⟩
theorem _root_.Gomjml.Expand.inert_append {xs ys} (hx : Inert xs) (hy : Inert ys) : Inert (xs ++ ys) :=
  ⟨movesM_append (moves_of_inert hx.1) (moves_of_inert hy.1), movesM_append (moves_of_inert hx.2.1) (moves_of_inert hy.2.1),
   movesM_append (moves_of_inert hx.2.2) (moves_of_inert hy.2.2)⟩
theorem _root_.Gomjml.Expand.inert_flatMap {α} (f : α → List GTok) (l : List α) (h : ∀ a ∈ l, Inert (f a)) : Inert (l.flatMap f) :=
  ⟨movesM_flatMap 0 [] f l fun a ha => (h a ha).1, movesM_flatMap 0 [] f l fun a ha => (h a ha).2.1,
   movesM_flatMap 0 [] f l fun a ha => (h a ha).2.2⟩

theorem movesM_replicate {step} (m : Nat) (S : List String) (xs : List GTok) (n : Nat) (h : MovesM step m S m S xs) :
    MovesM step m S m S (List.replicate n xs).flatten :=
  List.flatMap_id ▸ movesM_flatMap m S id _ fun _ ha => List.eq_of_mem_replicate ha ▸ h

theorem movesM_lift {step} {m0 m1 : Nat} {S0 S1 : List String} {xs : List GTok} (h : MovesM step m0 S0 m1 S1 xs) (R : List String) :
    MovesM step m0 (S0 ++ R) m1 (S1 ++ R) xs := fun st => by simpa [List.append_assoc] using h (R ++ st)

theorem movesM_base {step} {m : Nat} {xs : List GTok} (h : MovesM step m [] m [] xs) (S : List String) : MovesM step m S m S xs :=
  movesM_lift h S

/-- names the three (what a checker does is `Checks`) -/
def IsChecker (step : VS → GTok → Except String VS) : Prop := step = stdStep ∨ step = msoStep ∨ step = visStep

theorem inert_of_checkers {xs : List GTok} (h : ∀ step, IsChecker step → Moves step [] [] xs) : Inert xs :=
  ⟨h _ (.inl rfl), h _ (.inr (.inl rfl)), h _ (.inr (.inr rfl))⟩

/-! Appendix: the frame property, from `Step.frame`.  No component proof needs it: `MovesM` speaks of an open stack from the start. -/

def Framed (step : VS → GTok → Except String VS) : Prop :=
  ∀ (s s' : VS) (x : GTok) (ex : List String), step s x = .ok s' → step ⟨s.mode, s.stack ++ ex⟩ x = .ok ⟨s'.mode, s'.stack ++ ex⟩

theorem framed_of_checks {step live vml hide} (hc : Checks step live vml hide) : Framed step :=
  fun _ _ _ ex h => hc.spec.mpr ((hc.spec.mp h).frame ex)

theorem std_framed : Framed stdStep := framed_of_checks std_checks
theorem mso_framed : Framed msoStep := framed_of_checks mso_checks
theorem vis_framed : Framed visStep := framed_of_checks vis_checks

theorem run_framed {step} (hf : Framed step) : ∀ (xs : List GTok) (s r : VS) (ex : List String),
    runE step s xs = .ok r → runE step ⟨s.mode, s.stack ++ ex⟩ xs = .ok ⟨r.mode, r.stack ++ ex⟩
  | [], _, _, _, h => by cases h; rfl
  | x :: xs, s, r, ex, h => by
    obtain ⟨s1, hx, h⟩ := runE_cons_eq_ok.mp h
    exact runE_cons_eq_ok.mpr ⟨_, hf s s1 x ex hx, run_framed hf xs s1 r ex h⟩

theorem movesM_of_closed {step} (hf : Framed step) (m0 m1 : Nat) (S0 S1 : List String) (xs : List GTok)
    (h : runE step ⟨m0, S0⟩ xs = .ok ⟨m1, S1⟩) : MovesM step m0 S0 m1 S1 xs := fun st => run_framed hf xs ⟨m0, S0⟩ ⟨m1, S1⟩ st h

theorem checker_framed {step} (h : IsChecker step) : Framed step := by
  rcases h with rfl | rfl | rfl
  · exact std_framed
  · exact mso_framed
  · exact vis_framed

theorem movesM_closed3 {step} (hc : IsChecker step) (m0 m1 : Nat) (S0 S1 : List String) (xs : List GTok)
    (h1 : runE stdStep ⟨m0, S0⟩ xs = .ok ⟨m1, S1⟩) (h2 : runE msoStep ⟨m0, S0⟩ xs = .ok ⟨m1, S1⟩)
    (h3 : runE visStep ⟨m0, S0⟩ xs = .ok ⟨m1, S1⟩) : MovesM step m0 S0 m1 S1 xs := by
  rcases hc with rfl | rfl | rfl
  · exact movesM_of_closed std_framed _ _ _ _ _ h1
  · exact movesM_of_closed mso_framed _ _ _ _ _ h2
  · exact movesM_of_closed vis_framed _ _ _ _ _ h3

end Gomjml.Leaves
