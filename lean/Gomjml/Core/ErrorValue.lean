/-! # The error value of a compilation (`mjml/error.go`, and the reporter closures of `RenderWithAST` / `RenderFromAST`)

Every report of the validator becomes one detail: the first report creates the error (`ErrInvalidAttribute`), every later one is
`Append`ed.  The theorems say that nothing is lost, merged or reordered on the way; the message text (`text`) is compared
with the implementation by the correspondence run `errval` of `hx C17` through the public API. -/
namespace Gomjml.ErrorValue

structure Detail where
  line : Int
  message : String
  tag : String
deriving DecidableEq, Repr

structure Err where
  message : String
  details : List Detail
deriving DecidableEq, Repr

/-- a report of the validator: (tag, attribute, line) -/
abbrev Report := String × String × Int

/-- `ErrInvalidAttribute` -/
def invalidAttribute (r : Report) : Err :=
  ⟨"MJML compilation error", [⟨r.2.2, "Invalid attribute '" ++ r.2.1 ++ "' for tag <" ++ r.1 ++ ">", r.1⟩]⟩

/-- `(*Error).Append` -/
def Err.append (e other : Err) : Err := { e with details := e.details ++ other.details }

/-- the reporter closure: nil until the first report, then appended to -/
def accumulate : Option Err → Report → Option Err
  | none, r => some (invalidAttribute r)
  | some e, r => some (e.append (invalidAttribute r))

def collect (rs : List Report) : Option Err := rs.foldl accumulate none

def detailOf (r : Report) : Detail := ⟨r.2.2, "Invalid attribute '" ++ r.2.1 ++ "' for tag <" ++ r.1 ++ ">", r.1⟩

theorem foldl_accumulate_some (e : Err) : ∀ (rs : List Report),
    rs.foldl accumulate (some e) = some ⟨e.message, e.details ++ rs.map detailOf⟩
  | [] => by simp
  | r :: rs => by
    simp only [List.foldl_cons, accumulate]
    rw [foldl_accumulate_some (e.append (invalidAttribute r)) rs]
    simp [Err.append, invalidAttribute, detailOf]

/-- **one detail per report, in the order of the reports — nothing merged, nothing dropped, however alike two reports look**;
    no report, no error -/
theorem collect_spec (rs : List Report) :
    collect rs = (if rs = [] then none else some ⟨"MJML compilation error", rs.map detailOf⟩) := by
  cases rs with
  | nil => rfl
  | cons r rs =>
    unfold collect
    simp only [List.foldl_cons, accumulate]
    rw [foldl_accumulate_some]
    simp [invalidAttribute, detailOf]

theorem collect_count (rs : List Report) (e : Err) (h : collect rs = some e) : e.details.length = rs.length := by
  rw [collect_spec] at h
  cases rs with
  | nil => cases h
  | cons r rs => cases h; exact List.length_map ..

def detailLine (d : Detail) : String := "- Line " ++ toString d.line ++ " of (" ++ d.tag ++ ") - " ++ d.message

/-- `Error.Error()`: the message, then one line per detail -/
def text (e : Err) : String :=
  if e.details = [] then e.message else e.message ++ ":\n" ++ "\n".intercalate (e.details.map detailLine)

end Gomjml.ErrorValue
