import Gomjml.Core.InlineTag
/-! The inline-style scanner's per-tag step: the parse loses nothing; the write-back changes the style attribute only. -/
namespace Gomjml.InlineTag
open Gomjml.Amp

theorem spanUnq_append (s : List B) : (spanUnq s).1 ++ (spanUnq s).2 = s := by
  fun_induction spanUnq s with
  | case1 | case2 | case3 => rfl
  | case4 b r _ _ v rest hsr ih => rw [hsr] at ih; exact congrArg (b :: ·) ih

theorem suffix_of_dropWhile {l r : List B} {b : B} (h : l.dropWhile isSp = b :: r) : r <:+ l :=
  (List.suffix_cons b r).trans (h ▸ List.dropWhile_suffix isSp)

theorem parseValue_suffix (r1 : List B) : (parseValue r1).2.2.2 <:+ r1 := by
  fun_cases parseValue r1 with
  | case1 e r3 h1 _ q r5 h3 _ =>
    -- quoted: the value and the closing quote are dropped
    exact (List.drop_suffix 1 _).trans ((List.dropWhile_suffix _).trans ((suffix_of_dropWhile h3).trans (suffix_of_dropWhile h1)))
  | case2 e r3 h1 _ q r5 h3 _ v rest hsu =>
    -- unquoted: `spanUnq` cuts the value off
    have hu := spanUnq_append (q :: r5)
    rw [hsu] at hu
    exact List.IsSuffix.trans ⟨v, hu⟩ ((h3 ▸ List.dropWhile_suffix isSp).trans (suffix_of_dropWhile h1))
  | case3 => exact List.nil_suffix             -- `=` at the end of the text
  | case4 | case5 => exact List.suffix_refl r1    -- no `=`: nothing is taken

def allSp (l : List B) : Prop := ∀ b ∈ l, isSp b = true

theorem allSp_takeWhile (l : List B) : allSp (l.takeWhile isSp) := List.all_eq_true.mp List.all_takeWhile

/-- `l.takeWhile p ≠ []`, `rest` a suffix of `l.dropWhile p`: the cut at `rest` leaves a front -/
theorem take_sub_suffix {α} (p : α → Bool) (l rest : List α) (hnm : l.takeWhile p ≠ []) (hr : rest <:+ l.dropWhile p) :
    l.take (l.length - rest.length) ≠ [] ∧ l.take (l.length - rest.length) ++ rest = l := by
  obtain ⟨c, hc⟩ := hr
  have hne : l.takeWhile p ++ c ≠ [] := List.append_ne_nil_of_left_ne_nil hnm c
  have hl : (l.takeWhile p ++ c) ++ rest = l := by rw [List.append_assoc, hc, List.takeWhile_append_dropWhile]
  generalize l.takeWhile p ++ c = front at hne hl
  subst hl
  rw [List.length_append, Nat.add_sub_cancel, List.take_left' rfl]
  exact ⟨hne, rfl⟩

/-- the bytes of the attributes as written, with the white space in front of each -/
def piecesOf (attrs : List Attr) : List B := attrs.flatMap (fun a => a.pre ++ a.raw)

/-- what stands between the last attribute and `rest`: nothing, or (self-closing) the white space in front of the slash, the slash
    and the white space behind it -/
def midOk (e : Ending) (mid : List B) : Prop :=
  match e with
  | .slash sfx => ∃ ws2, allSp ws2 ∧ mid = sfx ++ ws2
  | _ => mid = []

/-- **the attribute loop loses nothing**, and every attribute it adds has its written form -/
theorem loop_pieces (fuel : Nat) (s : List B) (acc : List Attr) :
    ∃ attrs mid, (loop fuel s acc).1 = acc.reverse ++ attrs ∧ (∀ a ∈ attrs, a.raw ≠ []) ∧
      midOk (loop fuel s acc).2.1 mid ∧ piecesOf attrs ++ mid ++ (loop fuel s acc).2.2 = s := by
  fun_induction loop fuel s acc with
  -- no attribute: fuel out, end of the text, `>`, no name
  | case1 | case2 | case3 | case5 => exact ⟨[], [], (List.append_nil _).symm, nofun, rfl, rfl⟩
  | case4 _ s _ pre b r hs _ hb =>
    -- self-closing mark
    refine ⟨[], pre ++ [slash] ++ r.takeWhile isSp, (List.append_nil _).symm, nofun, ⟨_, allSp_takeWhile r, rfl⟩, ?_⟩
    rw [← List.takeWhile_append_dropWhile (p := isSp) (l := s), hs, beq_iff_eq.mp hb]
    simp only [piecesOf, List.flatMap_nil, List.nil_append, List.append_assoc, List.cons_append,
      List.takeWhile_append_dropWhile]
    rfl
  | case6 _ s _ _ b r hs _ _ _ r1 hnm _ _ _ rest hpv _ ih =>
    -- an attribute.  `hs : dropWhile isSp s = b :: r`, `hnm`: a name is there, `hpv`: what `parseValue r1` returns
    have hsuf : rest <:+ r1 := by have := parseValue_suffix r1; rwa [hpv] at this
    obtain ⟨hne, hraw⟩ := take_sub_suffix _ (b :: r) rest (fun e => hnm (beq_iff_eq.mpr e)) hsuf
    obtain ⟨attrs, mid, h1, h2, h3, h4⟩ := ih
    rw [List.reverse_cons, List.append_assoc, List.singleton_append] at h1
    refine ⟨_, mid, h1, List.forall_mem_cons.mpr ⟨hne, h2⟩, h3, ?_⟩
    rw [← List.takeWhile_append_dropWhile (p := isSp) (l := s), hs, ← hraw]
    simp only [piecesOf, List.flatMap_cons, List.append_assoc] at h4 ⊢
    rw [h4]

theorem emitAttr_raw (a : Attr) (h : a.raw ≠ []) : emitAttr a = a.pre ++ a.raw := by
  rw [emitAttr, if_pos (bne_iff_ne.mpr h)]

theorem emit_eq_pieces (attrs : List Attr) (h : ∀ a ∈ attrs, a.raw ≠ []) : attrs.flatMap emitAttr = piecesOf attrs := by
  rw [piecesOf, List.flatMap_def, List.flatMap_def, List.map_congr_left fun a ha => emitAttr_raw a (h a ha)]

theorem parse_pieces (tag : List B) (p : Parsed) (h : parse tag = some p) :
    (∀ a ∈ p.attrs, a.raw ≠ []) ∧
    ∃ lead mid, allSp lead ∧ midOk p.ending mid ∧ tag = [lt] ++ lead ++ p.name ++ piecesOf p.attrs ++ mid ++ p.rest := by
  revert h
  fun_cases parse tag with
  | case1 | case3 | case4 => exact nofun    -- no tag name, no `<`, the empty text: `none`
  | case2 l r hl r0 nm _ attrs e rest hlo =>
    rintro ⟨⟩
    obtain ⟨attrs', mid, h1, h2, h3, h4⟩ := loop_pieces (r0.length + 1) (r0.dropWhile isTagNameByte) []
    rw [hlo] at h1 h3 h4
    obtain rfl : attrs = attrs' := h1
    refine ⟨h2, r.takeWhile isSp, mid, allSp_takeWhile r, h3, ?_⟩
    simp only [List.append_assoc] at h4 ⊢
    rw [h4, List.takeWhile_append_dropWhile, List.takeWhile_append_dropWhile, beq_iff_eq.mp (Bool.and_eq_true_iff.mp hl).1]
    rfl

theorem rebuild_edit (n c : List B) (l r : List Attr) (x : Attr) (hl : ∀ a ∈ l, a.raw ≠ []) (hr : ∀ a ∈ r, a.raw ≠ []) :
    rebuild n (l ++ x :: r) c = [lt] ++ n ++ piecesOf l ++ emitAttr x ++ piecesOf r ++ c ++ [gt] := by
  rw [rebuild, List.flatMap_append, List.flatMap_cons, emit_eq_pieces l hl, emit_eq_pieces r hr]
  simp only [List.append_assoc]

/-- the style attribute as the write-back spells it once it has been changed -/
def styleText (a : Attr) (v : List B) : List B :=
  a.name ++ [eqs] ++ [if a.quote == 0 then dq else a.quote] ++ v ++ [if a.quote == 0 then dq else a.quote]

theorem emitAttr_rewritten (pre n v : List B) (q : B) :
    emitAttr ⟨pre, n, v, q, true, []⟩ = pre ++ styleText ⟨pre, n, v, q, true, []⟩ v := by
  simp [emitAttr, styleText]

abbrev classValue (p : Parsed) (ci : Nat) : List B := p.attrs[ci]?.map (·.value) |>.getD []

theorem inlineTag_targeted (inl : List B → List B) (tag : List B) (p : Parsed) (hp : parse tag = some p)
    (ci : Nat) (hci : lastIdx classN p.attrs = some ci) (hd : inl (classValue p ci) ≠ []) :
    inlineTag inl tag = rebuild p.name
      (match lastIdx styleN p.attrs with
        | some si => p.attrs.modify si (fun a =>
            { a with value := mergeStyle a.value (inl (classValue p ci)), hasValue := true, raw := [] })
        | none => p.attrs ++ [⟨[32], styleN, inl (classValue p ci), dq, true, []⟩])
      (closing tag p) := by
  unfold inlineTag
  simp only [hp, hci]
  -- a class attribute was found, so there are attributes
  rw [if_neg (fun e => by rw [beq_iff_eq.mp e] at hci; cases hci), if_neg (by simpa using hd)]
  rfl

/-- **append case**: no style attribute -/
theorem inlineTag_append (inl : List B → List B) (tag : List B) (p : Parsed) (hp : parse tag = some p)
    (ci : Nat) (hci : lastIdx classN p.attrs = some ci) (hd : inl (classValue p ci) ≠ [])
    (hs : lastIdx styleN p.attrs = none) :
    inlineTag inl tag = [lt] ++ p.name ++ piecesOf p.attrs ++
      ([32] ++ styleN ++ [eqs] ++ [dq] ++ inl (classValue p ci) ++ [dq]) ++ closing tag p ++ [gt] := by
  rw [inlineTag_targeted inl tag p hp ci hci hd, hs]
  simp only []    -- the `match` on `none`
  rw [rebuild_edit _ _ p.attrs [] _ (parse_pieces tag p hp).1 nofun, emitAttr_rewritten]
  -- `ite_self`: the added attribute's quote is `if dq == 0 then dq else dq`
  simp only [styleText, ite_self, piecesOf, List.flatMap_nil, List.append_nil, List.append_assoc]

/-- **merge case**: the last style attribute gets the merged value -/
theorem inlineTag_merge (inl : List B → List B) (tag : List B) (p : Parsed) (hp : parse tag = some p)
    (ci : Nat) (hci : lastIdx classN p.attrs = some ci) (hd : inl (classValue p ci) ≠ [])
    (si : Nat) (hs : lastIdx styleN p.attrs = some si) (a : Attr) (ha : p.attrs[si]? = some a) :
    inlineTag inl tag = [lt] ++ p.name ++ piecesOf (p.attrs.take si) ++
      (a.pre ++ styleText a (mergeStyle a.value (inl (classValue p ci)))) ++
      piecesOf (p.attrs.drop (si + 1)) ++ closing tag p ++ [gt] := by
  have hraw := (parse_pieces tag p hp).1
  obtain ⟨hsi, rfl⟩ := List.getElem?_eq_some_iff.mp ha
  rw [inlineTag_targeted inl tag p hp ci hci hd, hs]
  simp only []    -- the `match` on `some si`
  rw [List.modify_eq_take_cons_drop hsi, rebuild_edit _ _ _ _ _ (fun x hx => hraw x (List.mem_of_mem_take hx))
    (fun x hx => hraw x (List.mem_of_mem_drop hx)), emitAttr_rewritten]
  rfl    -- structure eta: the edited attribute keeps `pre`, `name`, `quote`

end Gomjml.InlineTag
