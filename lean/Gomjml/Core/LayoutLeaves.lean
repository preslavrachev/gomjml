import Gomjml.Core.LayoutStd
import Gomjml.Core.LayoutCount
import Gomjml.Core.LeavesProofs
/-! Whole documents: a layout tree (`Layout.Block`s) with what stands in its content slots, in document order (`Leaves.LeafM`;
`keep` for a slot whose content token stays, as for mj-text / mj-raw modelled by the layout itself).  `Doc.render` is the layout
skeleton with every content token replaced by the component's own markup; what is proved of the skeleton carries over by
`Expand.expand_spec` and `Leaves.leaf_inert`, the content count by `leaf_count`. -/
namespace Gomjml.LayoutLeaves
open Gomjml.Spec Gomjml.Expand Gomjml.Leaves Gomjml.Layout

structure Doc where
  blocks : List Block
  fills : List LeafM
deriving Repr

def Doc.skeleton (d : Doc) : List GTok := (Layout.render d.blocks).map Tok.toG
def Doc.render (d : Doc) : List GTok := expand (d.fills.map LeafM.toks) d.skeleton

theorem toG_noNot (ts : List Tok) : noNot (ts.map Tok.toG) = true := by
  induction ts with
  | nil => rfl
  | cons x r ih => cases x <;> simpa [Tok.toG, noNot] using ih

/-- **C02 / C03 / C04 (visibility)** for every layout tree with any component, any parameters and children, in any slot -/
theorem doc_spec (d : Doc) : StdWF d.render ∧ MsoWF d.render ∧ Visible d.render := by
  have hwf := wf_spec _ (C02_C03_all d.blocks)
  exact expand_spec d.skeleton (d.fills.map LeafM.toks) (toG_noNot _)
    (List.forall_mem_map.2 fun l _ => leaf_inert l)
    hwf.1 hwf.2.1 hwf.2.2

theorem cntT_expand {ts : List GTok} {fs : List (List GTok)} : fs.length = cntT ts → cntT (expand fs ts) = (fs.map cntT).sum := by
  fun_induction expand fs ts with
  | case1 fs => exact fun h => List.eq_nil_of_length_eq_zero h ▸ rfl
  | case2 f fs str ts ih =>
    -- `f` for `.t str`: one less on each side of the length hypothesis
    exact fun h => by simp only [cntT_append, List.map_cons, List.sum_cons, ih (Nat.succ.inj (h.trans (cntT_cons ..)))]
  | case3 fs x ts hx ih =>
    intro h
    rw [cntT_cons] at h ⊢
    cases ht : isT x with
    | false => rw [ht] at h; exact ih h
    | true =>
      -- a content token stays only when the fragments ran out
      cases x <;> cases ht
      cases fs with
      | nil => cases h
      | cons f fs => exact (hx f fs _ rfl rfl).elim

theorem cntT_toG (ts : List Tok) : cntT (ts.map Tok.toG) = cnt ts := by
  induction ts with
  | nil => rfl
  | cons x r ih => cases x <;> simp [Tok.toG, ih, cnt, isT]

/-- a document is complete when it names a component for every content slot of its layout -/
def Doc.Complete (d : Doc) : Prop := d.fills.length = (d.blocks.map Block.slots).sum

/-- the rendered document contains as many author-content tokens as its components have content slots -/
theorem doc_count (d : Doc) (h : d.Complete) : cntT d.render = (d.fills.map LeafM.slots).sum := by
  unfold Doc.render
  rw [cntT_expand (by simp only [List.length_map, Doc.skeleton, cntT_toG, content_count]; exact h), List.map_map]
  exact congrArg List.sum (List.map_congr_left fun l _ => leaf_count l)

end Gomjml.LayoutLeaves
