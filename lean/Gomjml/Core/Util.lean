/-! Shared instances; a map updated at one point keeps a pointwise property; what a left fold leaves to be seen when every
    step adds to it in the same way (appended, or put before what was there). -/
deriving instance DecidableEq for Except

namespace Gomjml

theorem forall_update {α β} [DecidableEq α] {P : α → β → Prop} {f g : α → β} {a : α} (h : ∀ x, P x (f x))
    (hb : P a (g a)) : ∀ x, P x (if x = a then g x else f x) := by
  intro x; split
  · next e => exact e ▸ hb
  · exact h x

theorem some_update {α β} [DecidableEq α] {P : α → β → Prop} {f : α → Option β} {a : α} {o : Option β}
    (h : ∀ x b, f x = some b → P x b) (ho : ∀ b, o = some b → P a b) :
    ∀ x b, (if x = a then o else f x) = some b → P x b :=
  forall_update (P := fun x o => ∀ b, o = some b → P x b) h ho

theorem forall_update₂ {α β γ} [DecidableEq α] {P : α → β → γ → Prop} {f : α → β} {g : α → γ} {a : α} {b : β} {c : γ}
    (h : ∀ x, P x (f x) (g x)) (hbc : P a b c) : ∀ x, P x (if x = a then b else f x) (if x = a then c else g x) := by
  intro x; split
  · next e => exact e ▸ hbc
  · exact h x

theorem foldl_append_obs {σ α β : Type} (obs : σ → List β) (step : σ → α → σ) (g : α → List β)
    (h : ∀ t x, obs (step t x) = obs t ++ g x) : ∀ (l : List α) (t : σ), obs (l.foldl step t) = obs t ++ l.flatMap g
  | [], t => (List.append_nil _).symm
  | x :: l, t => by rw [List.foldl_cons, foldl_append_obs obs step g h l, h, List.flatMap_cons, List.append_assoc]

/-- `rd` reads the state, `g x` is the word of `x`, `D xs` that of a list (given by two equations): each step puts its
    word before what was there -/
theorem foldl_orElse {σ ι β} (rd : σ → Option β) (f : σ → ι → σ) (g : ι → Option β) (D : List ι → Option β)
    (hstep : ∀ s x, rd (f s x) = (g x).orElse (fun _ => rd s))
    (hnil : D [] = none) (hcons : ∀ x r, D (x :: r) = (D r).orElse (fun _ => g x)) :
    ∀ (xs : List ι) (s : σ), rd (xs.foldl f s) = (D xs).orElse (fun _ => rd s)
  | [], s => by rw [hnil]; rfl
  | x :: r, s => by
    rw [List.foldl_cons, foldl_orElse rd f g D hstep hnil hcons r, hstep, hcons]
    simp only [Option.orElse_eq_or, Option.or_assoc]

/-! ### lists: prefixes; what a pass keeps of `List.filter q` (`Lines.nl`, `TextFlow.ink`, `TextVoid.inkS`) -/

theorem isPrefixOf_append_left {α : Type} [BEq α] : ∀ (l a b : List α), l.length ≤ a.length → l.isPrefixOf (a ++ b) = l.isPrefixOf a
  | [], _, _, _ => by simp
  | x :: l, [], _, h => by simp at h
  | x :: l, y :: a, b, h => by
    simp only [List.cons_append, List.isPrefixOf]
    rw [isPrefixOf_append_left l a b (by simpa using h)]

theorem prefix_split {α : Type} [BEq α] [LawfulBEq α] (old s : List α) (h : old.isPrefixOf s = true) :
    old ++ s.drop old.length = s :=
  List.prefix_iff_eq_append.mp (List.isPrefixOf_iff_prefix.mp h)

/-- for scanners that return (part read, rest) and put `pre` in front of the part read -/
theorem map_split {α : Type} {o : Option (List α × List α)} {pre xs c r : List α}
    (ih : ∀ c r, o = some (c, r) → xs = c ++ r)
    (h : o.map (fun p => (pre ++ p.1, p.2)) = some (c, r)) : pre ++ xs = c ++ r := by
  cases o with
  | none => cases h
  | some p =>
    cases h
    rw [ih p.1 p.2 rfl, List.append_assoc]

theorem isPrefixOf_append_self {α : Type} [BEq α] [LawfulBEq α] (l r : List α) : l.isPrefixOf (l ++ r) = true :=
  List.isPrefixOf_iff_prefix.mpr (List.prefix_append l r)

theorem filter_dropWhile {α : Type} {p q : α → Bool} (h : ∀ b, p b = true → q b = false) :
    ∀ (s : List α), (s.dropWhile p).filter q = s.filter q
  | [] => rfl
  | b :: r => by
    by_cases hb : p b = true
    · rw [List.dropWhile_cons_of_pos hb, filter_dropWhile h r, List.filter_cons_of_neg (by simp [h b hb])]
    · rw [List.dropWhile_cons_of_neg hb]

theorem filter_cons_congr {α : Type} {q : α → Bool} (b : α) {x y : List α} (h : x.filter q = y.filter q) :
    (b :: x).filter q = (b :: y).filter q := by
  rw [List.filter_cons, List.filter_cons, h]

theorem filter_trimRight {α : Type} {p q : α → Bool} (h : ∀ b, p b = true → q b = false) (s : List α) :
    ((s.reverse.dropWhile p).reverse).filter q = s.filter q := by
  rw [List.filter_reverse, filter_dropWhile h, List.filter_reverse, List.reverse_reverse]

end Gomjml
