import Gomjml.Core.Mixed
import Gomjml.Core.Lengths
/-! `Gomjml.Mixed`: the reader reads back what the serialiser wrote; on tidy trees the Model of `GetMixedContent`
    is that serialiser (`tidy` and its parts stand first). -/
namespace Gomjml.Mixed
open Gomjml.Amp Gomjml.CharData Gomjml.InlineCss Gomjml.Lengths

/-- a byte no white-space character ends with (ASCII, not white space) -/
def plainR (b : B) : Bool := !isAsciiSp b && b < 128

/-- the first byte is `plain` -/
def textStartOK : List B → Bool
  | [] => false
  | b :: _ => plain b
/-- the last byte is `plainR` -/
def textEndOK (s : List B) : Bool :=
  match s.reverse with
  | [] => false
  | b :: _ => plainR b

def edgeOK (ps : List (Part Node)) : Bool :=
  (match ps with
   | .text s :: _ => textStartOK s
   | _ => true) &&
  (match ps.getLast? with
   | some (.text s) => textEndOK s
   | _ => true)

mutual
  def tidyNode : Node → Bool
    | .mk _ _ ps => edgeOK ps && tidyList ps
  def tidyList : List (Part Node) → Bool
    | [] => true
    | .text _ :: r => tidyList r
    | .node n :: r => tidyNode n && tidyList r
end

/-- at every level a first text run begins with a `plain` byte and a last one ends with a `plainR` (ASCII) byte -/
def tidy (ps : List (Part Node)) : Bool := edgeOK ps && tidyList ps


theorem untilB_stop {stop : B → Bool} {c : B} (r : List B) (hc : stop c = true) : untilB stop (c :: r) = ([], c :: r) := by
  simp only [untilB, hc, if_true]

theorem untilB_append {stop : B → Bool} {r : List B} (hr : untilB stop r = ([], r)) :
    ∀ x : List B, (∀ b ∈ x, stop b = false) → untilB stop (x ++ r) = (x, r)
  | [], _ => hr
  | b :: x, hx => by
    simp only [List.cons_append, untilB, hx b List.mem_cons_self, Bool.false_eq_true, if_false,
      untilB_append hr x fun c hc => hx c (List.mem_cons_of_mem _ hc)]

theorem untilB_append_stop {stop : B → Bool} (c : B) (hc : stop c = true) (x r : List B) (hx : ∀ b ∈ x, stop b = false) :
    untilB stop (x ++ c :: r) = (x, c :: r) := untilB_append (untilB_stop r hc) x hx

theorem escQB_other {b : B} (h : b ≠ 34) : escQB b = [b] := by simp only [escQB, beq_iff_eq, h, if_false]

theorem escQ_cons (b : B) (r : List B) : escQ (b :: r) = escQB b ++ escQ r := List.flatMap_cons

theorem escQ_no_quote (v : List B) : ∀ b ∈ escQ v, (b == 34) = false := by
  refine List.forall_mem_flatMap.mpr fun a _ b hb => ?_
  by_cases h : a = 34
  · subst h; revert b; decide    -- `escQB 34` is `&quot;`
  · rw [escQB_other h, List.mem_singleton] at hb
    exact hb ▸ beq_eq_false_iff_ne.mpr h

theorem escQ_length (v : List B) : v.length ≤ (escQ v).length :=
  List.length_le_flatMap (fun b => by unfold escQB; split <;> exact Nat.le_add_left 1 _) v

theorem unq_quot (fuel : Nat) (r : List B) : unq (fuel + 1) (quot ++ r) = 34 :: unq fuel r := rfl
theorem unq_other {fuel : Nat} {b : B} {r : List B} (h : b ≠ 38) : unq (fuel + 1) (b :: r) = b :: unq fuel r := by
  have h' : ((38 : B) == b) = false := beq_eq_false_iff_ne.mpr (Ne.symm h)
  simp only [unq, quot, List.isPrefixOf, h', Bool.false_and, Bool.false_eq_true, if_false]

theorem unq_escQ : ∀ (v : List B) (fuel : Nat), v.length ≤ fuel → wfVal v = true → unq fuel (escQ v) = v
  | [], fuel, _, _ => by cases fuel <;> rfl
  | b :: r, 0, h, _ => absurd h (Nat.not_succ_le_zero _)
  | b :: r, fuel + 1, h, hw => by
    simp only [wfVal, List.all_cons, Bool.and_eq_true, bne_iff_ne, ne_eq] at hw
    have ih := unq_escQ r fuel (Nat.le_of_succ_le_succ h) hw.2
    rw [escQ_cons]
    by_cases h1 : b = 34
    · rw [h1, show escQB 34 = quot from rfl, unq_quot, ih]
    · rw [escQB_other h1, List.singleton_append, unq_other hw.1, ih]

theorem serAttrs_cons_append (k v : List B) (r : List (List B × List B)) (T : List B) :
    serAttrs ((k, v) :: r) ++ T = 32 :: (k ++ 61 :: 34 :: (escQ v ++ 34 :: (serAttrs r ++ T))) := by
  simp only [serAttrs, List.cons_append, List.append_assoc]

theorem serAttrs_length (a : List (List B × List B)) : a.length ≤ (serAttrs a).length := by
  induction a with
  | nil => exact Nat.le_refl 0
  | cons kv r ih =>
    simp only [serAttrs, List.length_cons, List.length_append]
    omega

theorem all_not {p : B → Bool} {l : List B} (h : l.all (fun b => !p b) = true) : ∀ b ∈ l, p b = false := fun b hb =>
  (Bool.not_eq_true' _).mp (List.all_eq_true.mp h b hb)

theorem wfKey_slash (k : List B) : wfKey (47 :: k) = false := rfl
theorem wfName_slash (n : List B) : wfName (47 :: n) = false := rfl

theorem wfKey_no_eq {k : List B} (h : wfKey k = true) : ∀ b ∈ k, (b == 61) = false :=
  all_not (p := (· == 61)) ((Bool.and_eq_true _ _).mp h).2

theorem key_not_void {k rest : List B} (h : wfKey k = true) : [47, 62].isPrefixOf (k ++ 61 :: rest) = false := by
  cases k with
  | nil => rfl
  | cons c k' =>
    cases hc : c == 47
    · show ((47 : B) == c && _) = false
      rw [BEq.comm, hc]; rfl
    · rw [beq_iff_eq.mp hc, wfKey_slash] at h; cases h

theorem readAttrs_gt (fuel : Nat) (X : List B) : readAttrs (fuel + 1) (62 :: X) = some ([], false, X) := rfl
theorem readAttrs_void (fuel : Nat) (X : List B) : readAttrs (fuel + 1) (32 :: 47 :: 62 :: X) = some ([], true, X) := rfl
theorem readAttrs_attr {fuel : Nat} {k w rest : List B} (hk : wfKey k = true) (hw : ∀ b ∈ w, (b == 34) = false) :
    readAttrs (fuel + 1) (32 :: (k ++ 61 :: 34 :: (w ++ 34 :: rest))) =
      (readAttrs fuel rest).map fun y => ((k, unq w.length w) :: y.1, y.2) := by
  have hkey := untilB_append_stop 61 rfl k (34 :: (w ++ 34 :: rest)) (wfKey_no_eq hk)
  have hval := untilB_append_stop 34 rfl w rest hw
  rw [readAttrs]
  -- the blank is neither `>` nor the start of ` />`; `hkey`, `hval`: the two scans
  simp only [show ((32 : B) == 62) = false from rfl, show ((32 : B) == 32) = true from rfl, Bool.false_eq_true, if_false, if_true,
    key_not_void hk, hkey, hval]
  cases readAttrs fuel rest <;> rfl

/-- `T` ends the tag: only ever `62 :: X` or `32 :: 47 :: 62 :: X` -/
theorem readAttrs_ser {T X : List B} {vd : Bool} (hT : ∀ fuel, readAttrs (fuel + 1) T = some ([], vd, X)) :
    ∀ (a : List (List B × List B)) (fuel : Nat), wfAttrs a = true → a.length ≤ fuel →
      readAttrs (fuel + 1) (serAttrs a ++ T) = some (a, vd, X)
  | [], fuel, _, _ => hT fuel
  | (k, v) :: r, 0, _, h => absurd h (Nat.not_succ_le_zero _)
  | (k, v) :: r, fuel + 1, hw, hl => by
    simp only [wfAttrs, List.all_cons, Bool.and_eq_true] at hw
    rw [serAttrs_cons_append, readAttrs_attr hw.1.1 (escQ_no_quote v), readAttrs_ser hT r fuel hw.2 (Nat.le_of_succ_le_succ hl),
      unq_escQ v _ (escQ_length v) hw.1.2]
    rfl

theorem wfName_stop {n : List B} (h : wfName n = true) : ∀ b ∈ n, nameStop b = false :=
  all_not ((Bool.and_eq_true _ _).mp h).2

theorem wfName_cons {n : List B} (h : wfName n = true) : ∃ c n', n = c :: n' ∧ (c == 47) = false := by
  cases n with
  | nil => cases h
  | cons c n' =>
    refine ⟨c, n', rfl, ?_⟩
    cases hc : c == 47
    · rfl
    · rw [beq_iff_eq.mp hc, wfName_slash] at h; cases h

theorem readTok_close_eq (r : List B) : readTok (60 :: 47 :: r) = readClose r := rfl
theorem readTok_open_eq {c : B} {r : List B} (h : (c == 47) = false) : readTok (60 :: c :: r) = readOpen (c :: r) := by
  simp only [readTok, show ((60 : B) == 60) = true from rfl, if_true, h, Bool.false_eq_true, if_false]
theorem readTok_text_eq {b : B} {r : List B} (h : (b == 60) = false) : readTok (b :: r) = readText (b :: r) := by
  simp only [readTok, h, Bool.false_eq_true, if_false]

theorem readTok_open {n : List B} {a : List (List B × List B)} {T X : List B} {vd : Bool}
    (hn : wfName n = true) (ha : wfAttrs a = true) (hs : untilB nameStop T = ([], T))
    (hT : ∀ fuel, readAttrs (fuel + 1) T = some ([], vd, X)) :
    readTok (60 :: (n ++ (serAttrs a ++ T))) = some (if vd then .void n a else .opn n a, X) := by
  have hs' : untilB nameStop (serAttrs a ++ T) = ([], serAttrs a ++ T) := by
    cases a with
    | nil => exact hs
    | cons kv r => exact untilB_stop _ rfl
  have hl : a.length ≤ (serAttrs a ++ T).length :=
    Nat.le_trans (serAttrs_length a) (List.length_append ▸ Nat.le_add_right _ _)
  obtain ⟨c, n', rfl, hc⟩ := wfName_cons hn
  rw [List.cons_append, readTok_open_eq hc, ← List.cons_append, readOpen, untilB_append hs' _ (wfName_stop hn)]
  simp only [readAttrs_ser hT a _ ha hl]

theorem readTok_close {n : List B} (X : List B) (hn : wfName n = true) :
    readTok (60 :: 47 :: (n ++ 62 :: X)) = some (.cls n, X) := by
  have hu := untilB_append_stop 62 rfl n X fun b hb => (Bool.or_eq_false_iff.mp (wfName_stop hn b hb)).2
  simp only [readTok_close_eq, readClose, hu]

/-- what may follow a text run: the scan for `<` halts there -/
def Clean (R : List B) : Prop := untilB (· == 60) R = ([], R)

theorem clean_nil : Clean [] := rfl
theorem clean_lt (r : List B) : Clean (60 :: r) := untilB_stop r rfl

theorem readTok_text {s R : List B} (hs : s ≠ []) (hR : Clean R) : readTok (escape s ++ R) = some (.text s, R) := by
  have hno : ∀ b ∈ escape s, (b == 60) = false := fun b hb => beq_eq_false_iff_ne.mpr (escape_no_markup s b hb).1
  obtain ⟨b, r, he⟩ := List.exists_cons_of_ne_nil (escape_ne_nil hs)
  have h : readTok (escape s ++ R) = readText (escape s ++ R) := by
    rw [he]; exact readTok_text_eq (hno b (he ▸ List.mem_cons_self))
  rw [h, readText, untilB_append hR _ hno, unescape_escape s _ (escape_length s)]

theorem read_nil : read [] = some [] := by rw [read]; rfl

/-- `ht`: what the rest reads as; the token lemmas compose as terms -/
theorem read_step {s r : List B} {e : Ev} {t : List Ev} (h : readTok s = some (e, r)) (hl : r.length < s.length)
    (ht : read r = some t) : read s = some (e :: t) := by
  have hne : s ≠ [] := fun h0 => by rw [h0] at hl; exact Nat.not_lt_zero _ hl
  rw [read]; simp only [hne, if_false, h, hl, if_true, ht, Option.map_some]

section tokens
variable {n : List B} {a : List (List B × List B)} (hn : wfName n = true) (ha : wfAttrs a = true) {X : List B} {t : List Ev}
  (ht : read X = some t)
include hn ht
theorem read_close : read (60 :: 47 :: (n ++ 62 :: X)) = some (.cls n :: t) :=
  read_step (readTok_close X hn) (by simp only [List.length_cons, List.length_append]; omega) ht
include ha
theorem read_open : read (60 :: (n ++ (serAttrs a ++ 62 :: X))) = some (.opn n a :: t) :=
  read_step (readTok_open hn ha (untilB_stop _ rfl) (readAttrs_gt · X)) (by simp only [List.length_cons, List.length_append]; omega) ht
theorem read_void : read (60 :: (n ++ (serAttrs a ++ 32 :: 47 :: 62 :: X))) = some (.void n a :: t) :=
  read_step (readTok_open hn ha (untilB_stop _ rfl) (readAttrs_void · X)) (by simp only [List.length_cons, List.length_append]; omega) ht
end tokens

theorem read_text {s R : List B} {t : List Ev} (hs : s ≠ []) (hR : Clean R) (ht : read R = some t) :
    read (escape s ++ R) = some (.text s :: t) :=
  read_step (readTok_text hs hR) (by
    have := List.length_pos_iff.mpr (escape_ne_nil hs)
    simp only [List.length_append]; omega) ht

theorem serNode_append_void {void : List B → Bool} {n : List B} (a : List (List B × List B)) (ps : List (Part Node)) (R : List B)
    (h : void n = true) : serNode void (.mk n a ps) ++ R = 60 :: (n ++ (serAttrs a ++ 32 :: 47 :: 62 :: R)) := by
  simp only [serNode, h, if_true, List.cons_append, List.append_assoc, List.nil_append]
theorem serNode_append {void : List B → Bool} {n : List B} (a : List (List B × List B)) (ps : List (Part Node)) (R : List B)
    (h : void n = false) : serNode void (.mk n a ps) ++ R =
      60 :: (n ++ (serAttrs a ++ 62 :: (serParts void ps ++ 60 :: 47 :: (n ++ 62 :: R)))) := by
  simp only [serNode, h, Bool.false_eq_true, if_false, List.cons_append, List.append_assoc, List.nil_append]
theorem serNode_ends (void : List B → Bool) (n : Node) : (serNode void n).head? = some 60 ∧ (serNode void n).getLast? = some 62 := by
  obtain ⟨nm, a, kids⟩ := n
  rw [serNode]
  split <;> exact ⟨rfl, by rw [← List.head?_reverse]; simp⟩    -- reversed, `62` comes first

theorem clean_serParts (void : List B → Bool) {ps : List (Part Node)} {R : List B} (hw : wfParts true ps = true) (hR : Clean R) :
    Clean (serParts void ps ++ R) := by
  match ps, hw with  -- a text run at the head is ruled out by `hw`
  | [], _ => exact hR
  | .node n :: r, _ =>
    obtain ⟨t, ht⟩ := List.head?_eq_some_iff.mp (serNode_ends void n).1
    rw [serParts, ht]
    exact clean_lt _

mutual
theorem read_serNode (void : List B → Bool) : ∀ (n : Node) {R : List B} {t : List Ev}, wfNode n = true → read R = some t →
    read (serNode void n ++ R) = some (evNode void n ++ t)
  | .mk nm a kids, R, t, hw, ht => by
    simp only [wfNode, Bool.and_eq_true] at hw
    obtain ⟨⟨hnm, ha⟩, hkids⟩ := hw
    cases hv : void nm
    · rw [serNode_append a kids R hv, evNode, hv, if_neg Bool.false_ne_true, List.cons_append, List.append_assoc]
      exact read_open hnm ha (read_serParts void kids false hkids (clean_lt _) (read_close hnm ht))
    · rw [serNode_append_void a kids R hv, evNode, hv]
      exact read_void hnm ha ht
/-- **the round trip** -/
theorem read_serParts (void : List B → Bool) : ∀ (ps : List (Part Node)) (prev : Bool) {R : List B} {t : List Ev},
    wfParts prev ps = true → Clean R → read R = some t → read (serParts void ps ++ R) = some (evParts void ps ++ t)
  | [], _, R, t, _, _, ht => by rw [serParts, evParts]; exact ht
  | .text s :: r, prev, R, t, hw, hR, ht => by
    simp only [wfParts, Bool.and_eq_true, bne_iff_ne, ne_eq] at hw
    rw [serParts, List.append_assoc, evParts]
    exact read_text hw.1.2 (clean_serParts void hw.2 hR) (read_serParts void r true hw.2 hR ht)
  | .node n :: r, prev, R, t, hw, hR, ht => by
    simp only [wfParts, Bool.and_eq_true] at hw
    rw [serParts, List.append_assoc, evParts, List.append_assoc]
    exact read_serNode void n hw.1 (read_serParts void r false hw.2 hR ht)
end

theorem read_content (void : List B → Bool) (ps : List (Part Node)) (hw : wfParts false ps = true) :
    read (serParts void ps) = some (evParts void ps) := by
  have := read_serParts void ps false hw clean_nil read_nil
  rwa [List.append_nil, List.append_nil] at this

theorem spaceLenRev_plainR {b : B} {r : List B} (h : plainR b = true) : spaceLenRev (b :: r) = 0 := by
  unfold spaceLenRev
  split
  case h_13 => rfl    -- no pattern matches (generated names: see `spaceLen_plain`)
  case h_12 heq =>
    -- `c :: 0x80 :: 0xE2 :: _`: `c` a continuation byte, `b` ASCII
    cases heq
    have hlt : b < 128 := of_decide_eq_true ((Bool.and_eq_true _ _).mp h).2
    refine if_neg fun hc => ?_
    simp only [Bool.or_eq_true, Bool.and_eq_true, decide_eq_true_eq, beq_iff_eq] at hc
    rcases hc with ((⟨h1, _⟩ | rfl) | rfl) | rfl
    · exact absurd (UInt8.lt_of_lt_of_le hlt h1) (UInt8.lt_irrefl _)
    all_goals exact absurd hlt (by decide)
  all_goals
    -- the other patterns start with a literal byte, none `plainR`
    rename_i heq
    cases heq
    exact absurd h (by decide)

theorem trimSpace_edges (s : List B) (h1 : ∀ b ∈ s.head?, plain b = true) (h2 : ∀ b ∈ s.getLast?, plainR b = true) :
    trimSpace s = s := by
  refine trimSpace_id s ?_ ?_
  · cases s with
    | nil => rfl
    | cons b r => exact spaceLen_plain (h1 b rfl)
  · cases hr : s.reverse with
    | nil => rfl
    | cons b r => exact spaceLenRev_plainR (h2 b (by rw [← List.head?_reverse, hr]; rfl))

theorem textStartOK_iff (s : List B) : textStartOK s = true ↔ ∃ b r, s = b :: r ∧ plain b = true := by
  cases s with
  | nil => exact ⟨nofun, nofun⟩
  | cons b r => exact ⟨fun h => ⟨b, r, rfl, h⟩, fun ⟨_, _, he, hp⟩ => by cases he; exact hp⟩

theorem textEndOK_iff (s : List B) : textEndOK s = true ↔ ∃ r b, s = r ++ [b] ∧ plainR b = true := by
  unfold textEndOK
  constructor
  · intro h
    split at h
    · cases h
    · rename_i b t hr
      exact ⟨t.reverse, b, by rw [← List.reverse_reverse s, hr, List.reverse_cons], h⟩
  · rintro ⟨r, b, rfl, hb⟩
    rw [List.reverse_append]
    exact hb

theorem edgeOK_head {ps : List (Part Node)} {s : List B} (h : edgeOK ps = true) (hs : ps.head? = some (.text s)) :
    textStartOK s = true := by
  obtain ⟨r, rfl⟩ := List.head?_eq_some_iff.mp hs
  exact ((Bool.and_eq_true _ _).mp h).1

theorem edgeOK_getLast {ps : List (Part Node)} {s : List B} (h : edgeOK ps = true) (hs : ps.getLast? = some (.text s)) :
    textEndOK s = true := by
  have := ((Bool.and_eq_true _ _).mp h).2
  rwa [hs] at this

theorem ws_not_plain (b : B) (h : asciiWs b = true) : plain b = false ∧ plainR b = false := by
  simp only [asciiWs, Bool.or_eq_true, beq_iff_eq] at h
  rcases h with ((rfl | rfl) | rfl) | rfl <;> exact ⟨rfl, rfl⟩

theorem trimL_id (s : List B) (h : textStartOK s = true) : trimL s = s := by
  obtain ⟨b, r, rfl, hb⟩ := (textStartOK_iff s).mp h
  exact List.dropWhile_cons_of_neg fun hw => by rw [(ws_not_plain b hw).1] at hb; cases hb

theorem trimR_id (s : List B) (h : textEndOK s = true) : trimR s = s := by
  obtain ⟨r, b, rfl, hb⟩ := (textEndOK_iff s).mp h
  unfold trimR
  rw [List.reverse_append, List.reverse_singleton, List.singleton_append,
    List.dropWhile_cons_of_neg (fun hw => by rw [(ws_not_plain b hw).2] at hb; cases hb), List.reverse_cons, List.reverse_reverse]

theorem serParts_append (void : List B → Bool) (a b : List (Part Node)) :
    serParts void (a ++ b) = serParts void a ++ serParts void b := by
  induction a with
  | nil => rfl
  | cons p r ih => cases p <;> simp only [List.cons_append, serParts, ih, List.append_assoc]

/-- a byte is written as itself or as a reference `&…;` -/
theorem escB_ends (b : B) :
    ((escB b).head? = some b ∨ (escB b).head? = some 38) ∧ ((escB b).getLast? = some b ∨ (escB b).getLast? = some 59) := by
  rcases escB_cases b with ⟨_, h⟩ | ⟨_, h⟩ | ⟨_, h⟩ | ⟨_, _, _, h⟩ <;> rw [h]
  · exact ⟨.inr rfl, .inr rfl⟩
  · exact ⟨.inr rfl, .inr rfl⟩
  · exact ⟨.inr rfl, .inr rfl⟩
  · exact ⟨.inl rfl, .inl rfl⟩

theorem serParts_head (void : List B → Bool) : ∀ (ps : List (Part Node)), edgeOK ps = true →
    ∀ c ∈ (serParts void ps).head?, plain c = true
  | [], _, c, hc => by cases hc
  | .node n :: r, _, c, hc => by
    rw [serParts, List.head?_append, (serNode_ends void n).1] at hc
    cases hc; decide
  | .text s :: r, h, c, hc => by
    obtain ⟨b, s', rfl, hb⟩ := (textStartOK_iff s).mp (edgeOK_head h rfl)
    rw [serParts, escape, List.flatMap_cons, List.append_assoc, List.head?_append] at hc
    rcases (escB_ends b).1 with e | e <;> rw [e] at hc <;> cases hc
    · exact hb    -- `b` itself
    · decide      -- `&`

theorem serParts_last (void : List B → Bool) (ps : List (Part Node)) (h : edgeOK ps = true) :
    ∀ c ∈ (serParts void ps).getLast?, plainR c = true := by
  intro c hc
  rcases List.eq_nil_or_concat ps with rfl | ⟨ps', p, rfl⟩
  · cases hc
  · rw [List.concat_eq_append] at h hc
    rw [serParts_append, List.getLast?_append] at hc
    cases p with
    | node n =>
      rw [serParts, serParts, List.append_nil, (serNode_ends void n).2] at hc
      cases hc; decide
    | text s =>
      obtain ⟨s', b, rfl, hb⟩ := (textEndOK_iff s).mp (edgeOK_getLast h List.getLast?_concat)
      rw [serParts, serParts, List.append_nil, escape, List.flatMap_append, List.flatMap_cons, List.flatMap_nil, List.append_nil,
        List.getLast?_append] at hc
      rcases (escB_ends b).2 with e | e <;> rw [e] at hc <;> cases hc
      · exact hb    -- `b` itself
      · decide      -- `;`

/-- `i`, `n`: the loop's index and length; `hL`, `hR`: the runs it trims (first, last) lose nothing; `hin`: `inner` is right
    on children (of depth < `f`) -/
theorem loop_eq_ser (void : List B → Bool) (inner : List (Part Node) → List B) (f n : Nat)
    (hin : ∀ kids, depthParts kids < f → tidy kids = true → inner kids = serParts void kids) :
    ∀ (ps : List (Part Node)) (i : Nat), depthParts ps ≤ f → tidyList ps = true → i + ps.length = n →
    (i = 0 → ∀ s, ps.head? = some (.text s) → trimL s = s) → (∀ s, ps.getLast? = some (.text s) → trimR s = s) →
    loop void inner ps i n = serParts void ps
  | [], _, _, _, _, _, _ => rfl
  | p :: r, i, hd, ht, hn, hL, hR => by
    have ih := fun hd' ht' => loop_eq_ser void inner f n hin r (i + 1) hd' ht' ((Nat.add_right_comm i 1 r.length).trans hn)
      (fun h0 => absurd h0 (Nat.succ_ne_zero i)) fun s hs => hR s (by rw [List.getLast?_cons, hs]; rfl)
    match p with
    | .node (.mk nm a kids) =>
      -- `depthParts` of a cons is a `max`, `tidyList` an `&&`
      have hd' := Nat.max_le.mp hd
      have ht' := (Bool.and_eq_true _ _).mp ht
      simp only [loop, serParts, serNode, ih hd'.2 ht'.2, hin kids (Nat.lt_of_lt_of_le (Nat.lt_add_of_pos_left Nat.one_pos) hd'.1) ht'.1]
    | .text s =>
      have e1 : (if i = 0 then trimL s else s) = s := ite_eq_right_iff.mpr fun h0 => hL h0 s rfl
      have e2 : (if i + 1 = n then trimR s else s) = s := ite_eq_right_iff.mpr fun hi => by
        -- `i + 1 = n` forces `r = []`
        obtain rfl : r = [] := List.eq_nil_of_length_eq_zero (Nat.succ.inj (Nat.add_left_cancel (hn.trans hi.symm)))
        exact hR s rfl
      simp only [loop, serParts, ih hd ht, e1, e2]

theorem content_succ (void : List B → Bool) (f : Nat)
    (hin : ∀ kids, depthParts kids < f → tidy kids = true → content void f kids = serParts void kids)
    (ps : List (Part Node)) (hd : depthParts ps ≤ f) (ht : tidy ps = true) : content void (f + 1) ps = serParts void ps := by
  obtain ⟨he, hl⟩ : edgeOK ps = true ∧ tidyList ps = true := (Bool.and_eq_true _ _).mp ht
  rw [content, loop_eq_ser void (content void f) f ps.length hin ps 0 hd hl (Nat.zero_add _)
    (fun _ s hs => trimL_id s (edgeOK_head he hs)) fun s hs => trimR_id s (edgeOK_getLast he hs)]
  exact trimSpace_edges _ (serParts_head void ps he) (serParts_last void ps he)

/-- **the Model is its core** on tidy trees -/
theorem content_tidy (void : List B → Bool) (f : Nat) : ∀ (ps : List (Part Node)), depthParts ps ≤ f → tidy ps = true →
    content void (f + 1) ps = serParts void ps := by
  induction f with
  | zero => exact content_succ void 0 (fun kids hk _ => absurd hk (Nat.not_lt_zero _))
  | succ g ih => exact content_succ void (g + 1) (fun kids hk => ih kids (Nat.le_of_lt_succ hk))

end Gomjml.Mixed
