namespace Gomjml.Api
/-! Model of the public entry points (`mjml/render.go`) as a machine over what one call can leave behind for the next: the
    component trees a caller keeps.  C06(b) / C08.

    `attrs d` = the attribute store built from document `d`'s own head.  Every compilation carries its store in its render
    options: a component tree resolves mj-class when it is built and reads tag / mj-all defaults when it is rendered —
    both from the store it was built with (`html d gBuild gRender` with `gRender = gBuild`). -/

abbrev Doc := Nat
abbrev G := Nat
abbrev Html := Nat
abbrev Err := Nat

structure World where
  parse : Doc → Except Err Unit          -- does the document parse (the AST is identified with the document)
  attrs : Doc → G
  html : Doc → G → G → List G → Html     -- document, store at build time, store at render time, and the stores that were
                                         --   in force at the earlier renderings of THIS tree (components memoise resolved
                                         --   values and accumulate state from one Render to the next)
  validation : Doc → Option Err          -- invalid-attribute error reported while building the tree
  renderErr : Doc → Option Err           -- the document parses but rendering its body fails (mj-carousel without images, …)
  reorder : Html → Html                  -- normalizeGroupColumnClassOrder

structure St where
  trees : List (Doc × G × List G)        -- component trees created by NewFromAST: (document, store at build, stores at earlier renders)

inductive Call
  | render (d : Doc)                     -- Render
  | renderWithAST (d : Doc)              -- RenderWithAST
  | renderFromAST (d : Doc)              -- RenderFromAST (ParseMJML d)
  | newFromAST (d : Doc)                 -- NewFromAST (ParseMJML d): appends a tree
  | renderTree (k : Nat)                 -- RenderComponentString (k-th tree)
deriving Repr

/-- the three result shapes of C06(b): HTML and no error; HTML with a validation error; no HTML and an ordinary error;
    `noSuchTree`: no `k`-th tree.  NewFromAST returns no HTML: its `.ok 0` is a placeholder (C06b's `∃ html` is idle there). -/
inductive Res
  | ok (h : Html)
  | okValidation (h : Html) (e : Err)
  | fail (e : Err)
  | noSuchTree
deriving Repr, DecidableEq

def finish (w : World) (d : Doc) (h : Html) : Res :=
  match w.renderErr d with
  | some e => .fail e
  | none =>
    match w.validation d with
    | none => .ok h
    | some e => .okValidation h e

def step (w : World) (s : St) : Call → St × Res
  | .render d =>
    match w.parse d with
    | .error e => (s, .fail e)
    | .ok _ => (s, finish w d (w.reorder (w.html d (w.attrs d) (w.attrs d) [])))
  | .renderWithAST d =>
    match w.parse d with
    | .error e => (s, .fail e)
    | .ok _ => (s, finish w d (w.html d (w.attrs d) (w.attrs d) []))
  | .renderFromAST d =>
    match w.parse d with
    | .error e => (s, .fail e)
    | .ok _ => (s, finish w d (w.html d (w.attrs d) (w.attrs d) []))
  | .newFromAST d =>
    match w.parse d with
    | .error e => (s, .fail e)
    | .ok _ => ({ trees := s.trees ++ [(d, w.attrs d, [])] }, .ok 0)
  | .renderTree k =>
    match s.trees[k]? with
    | none => (s, .noSuchTree)
    | some (d, gb, seen) =>                                    -- reads the store the tree was built with
      match w.renderErr d with
      | some e => (s, .fail e)
      | none => ({ s with trees := s.trees.set k (d, gb, seen ++ [gb]) }, .ok (w.html d gb gb seen))

def run (w : World) (s : St) : List Call → St × List Res
  | [] => (s, [])
  | c :: r => let (s1, o) := step w s c; let (s2, os) := run w s1 r; (s2, o :: os)

def init : St := ⟨[]⟩

/-- what the call returns as the first thing a fresh process does -/
def fresh (w : World) (c : Call) : Res := (step w init c).2

theorem Res.shapes : ∀ r : Res, r ≠ .noSuchTree →
    (∃ html, r = .ok html) ∨ (∃ html e, r = .okValidation html e) ∨ (∃ e, r = .fail e)
  | .ok h, _ => .inl ⟨h, rfl⟩
  | .okValidation h e, _ => .inr (.inl ⟨h, e, rfl⟩)
  | .fail e, _ => .inr (.inr ⟨e, rfl⟩)
  | .noSuchTree, h => absurd rfl h

theorem finish_ne (w : World) (d : Doc) (h : Html) : finish w d h ≠ .noSuchTree := by
  unfold finish
  split
  · nofun
  · split <;> nofun

/-- a call that renders no kept tree returns its `fresh` result, never `noSuchTree`, and at most appends a tree -/
theorem step_not_tree (w : World) (s : St) (c : Call) (h : ∀ k, c ≠ .renderTree k) :
    fresh w c ≠ .noSuchTree ∧
    (step w s c = (s, fresh w c) ∨ ∃ d, step w s c = ({ trees := s.trees ++ [(d, w.attrs d, [])] }, fresh w c)) := by
  unfold fresh
  cases c with
  | render d | renderWithAST d | renderFromAST d =>
    dsimp only [step]
    cases w.parse d with
    | error e => exact ⟨nofun, .inl rfl⟩
    | ok _ => exact ⟨finish_ne w d _, .inl rfl⟩
  | newFromAST d =>
    dsimp only [step]
    cases w.parse d with
    | error e => exact ⟨nofun, .inl rfl⟩
    | ok _ => exact ⟨nofun, .inr ⟨d, rfl⟩⟩
  | renderTree k => exact absurd rfl (h k)

theorem step_eq_fresh (w : World) (s : St) (c : Call) (h : ∀ k, c ≠ .renderTree k) : (step w s c).2 = fresh w c := by
  rcases (step_not_tree w s c h).2 with e | ⟨d, e⟩ <;> rw [e]

/-- the record of tree `k` survives every call that does not render it -/
theorem tree_untouched (w : World) (s : St) (c : Call) (k : Nat) (hc : c ≠ .renderTree k) {t : Doc × G × List G}
    (hk : s.trees[k]? = some t) : (step w s c).1.trees[k]? = some t := by
  have other (h : ∀ j, c ≠ .renderTree j) : (step w s c).1.trees[k]? = some t := by
    rcases (step_not_tree w s c h).2 with e | ⟨d, e⟩ <;> rw [e]
    · exact hk
    · exact (List.getElem?_append_left (List.getElem?_eq_some_iff.mp hk).1).trans hk
  cases c with
  | renderTree j =>
    simp only [step]
    cases s.trees[j]? with
    | none => exact hk
    | some r =>
      obtain ⟨d, gb, seen⟩ := r
      dsimp only
      cases w.renderErr d with
      | some e => exact hk
      | none => exact (List.getElem?_set_ne (fun e => hc (congrArg _ e))).trans hk
  | _ => exact other (fun _ => nofun)

/-- … hence every run of other calls -/
theorem tree_survives_run (w : World) (k : Nat) {t : Doc × G × List G} :
    ∀ (cs : List Call) (s : St), (∀ c ∈ cs, c ≠ .renderTree k) → s.trees[k]? = some t → (run w s cs).1.trees[k]? = some t := by
  intro cs
  induction cs with
  | nil => exact fun _ _ h => h
  | cons c r ih =>
    exact fun s hc h => ih _ (fun x hx => hc x (List.mem_cons_of_mem _ hx)) (tree_untouched w s c k (hc c List.mem_cons_self) h)

/-- what rendering tree `k` returns depends on that tree's record only -/
theorem tree_result_congr (w : World) (s s' : St) (k : Nat) (h : s'.trees[k]? = s.trees[k]?) :
    (step w s' (.renderTree k)).2 = (step w s (.renderTree k)).2 := by
  simp only [step, h]
  cases s.trees[k]? with
  | none => rfl
  | some t =>
    obtain ⟨d, gb, seen⟩ := t
    dsimp only
    cases w.renderErr d <;> rfl

end Gomjml.Api
