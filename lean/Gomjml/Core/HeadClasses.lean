/-! Responsive column classes (C11).  The head pre-pass (`collectColumnClassesFromComponent`) and the body renderers are two
    definitions that agree by construction; that they are what the two code sites do is tested on real output (`hx C11`). -/
namespace Gomjml.HeadClasses

/-- '.' replaced by '-' in `digits`, the spelling Go prints for the percentage (`generateDecimalCSSClass`: `%d`, then `%.15f`
    of the fraction, trailing zeros cut); that printing is not modelled -/
def encode (digits : List Char) : List Char := digits.map (fun ch => if ch = '.' then '-' else ch)
/-- '-' back to '.': a left inverse on '-'-free spellings, so the name determines the width (the code reads none back) -/
def decode (name : List Char) : List Char := name.map (fun ch => if ch = '-' then '.' else ch)

theorem decode_encode (digits : List Char) (h : ∀ ch ∈ digits, ch ≠ '-') : decode (encode digits) = digits := by
  rw [decode, encode, List.map_map]
  refine (List.map_congr_left fun ch hch => ?_).trans (List.map_id digits)
  by_cases hdot : ch = '.'
  · subst hdot; rfl
  · simp [hdot, h ch hch]

inductive Width
  | px (n : Nat)
  | pct (digits : List Char)
  | other                       -- absent or anything else
deriving Repr, DecidableEq

/-- (class kind, payload) of a column or an mj-group -/
inductive Cls
  | px (n : Nat)
  | per (name : List Char)
deriving Repr, DecidableEq

/-- the head pre-pass (`MJGroupComponent.GetWidthClass`) -/
def groupClassHead : Width → Cls
  | .px n => .px n
  | .pct d => .per (encode d)
  | .other => .per ['1', '0', '0']

/-- the group's own `Render` -/
def groupClassBody : Width → Cls
  | .px n => .px n
  | .pct d => .per (encode d)
  | .other => .per ['1', '0', '0']

theorem groupClassHead_eq : groupClassHead = groupClassBody := funext fun w => by cases w <;> rfl

inductive SecKid
  | col (c : Cls)
  | group (w : Width) (cols : List Cls)
  | raw
inductive Blk
  | sec (kids : List SecKid)
  | wrap (secs : List (List SecKid))
  | hero
  | raw

def kidHead : SecKid → List Cls
  | .col c => [c]
  | .group w cols => groupClassHead w :: cols
  | .raw => []
def kidBody : SecKid → List Cls
  | .col c => [c]
  | .group w cols => groupClassBody w :: cols
  | .raw => []

def blkHead : Blk → List Cls
  | .sec ks => ks.flatMap kidHead
  | .wrap ss => ss.flatMap (fun ks => ks.flatMap kidHead)
  | _ => []
def blkBody : Blk → List Cls
  | .sec ks => ks.flatMap kidBody
  | .wrap ss => ss.flatMap (fun ks => ks.flatMap kidBody)
  | _ => []

theorem head_eq_body (bs : List Blk) : bs.flatMap blkHead = bs.flatMap blkBody := by
  have hk : kidHead = kidBody := funext fun k => by cases k <;> simp only [kidHead, kidBody, groupClassHead_eq]
  have hb : blkHead = blkBody := funext fun b => by cases b <;> simp only [blkHead, blkBody, hk]
  rw [hb]

end Gomjml.HeadClasses
