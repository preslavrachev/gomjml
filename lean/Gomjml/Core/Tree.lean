namespace Gomjml.Tree
/-! C18: `parseNode` as a fold over `encoding/xml` tokens, and its round trip. -/

inductive XTok
  | start (name : String) (attrs : List (String × String))
  | stop (name : String)
  | chars (s : String)
  | comment (s : String)
deriving DecidableEq, Repr

inductive Part (α : Type)
  | text (s : String)
  | node (n : α)
deriving Repr

/-- MJMLNode, without the derived `Text` field (it is `concat` of text/comment parts) -/
inductive Node
  | mk (name : String) (attrs : List (String × String)) (mixed : List (Part Node))
deriving Repr

/-- mixed content as tokens -/
inductive Item
  | text (s : String)
  | comment (s : String)
  | elem (n : Node)

mutual
  def Node.toks : Node → List XTok
    | .mk n a m => XTok.start n a :: (partsToks m ++ [XTok.stop n])
  def partsToks : List (Part Node) → List XTok
    | [] => []
    | .text s :: r => XTok.chars s :: partsToks r
    | .node n :: r => n.toks ++ partsToks r
end

/-- `parseNode` body: tokens up to the matching end tag; `fuel` bounds depth + length.  Comments are kept as text parts like
    the Go code (`"<!--" ++ c ++ "-->"`); adjacent text is *not* merged here. -/
def parseBody (fuel : Nat) (name : String) : List XTok → Option (List (Part Node) × List XTok)
  | ts => match fuel with
    | 0 => none
    | fuel + 1 => match ts with
      | [] => none                                           -- EOF inside element: error
      | XTok.stop n :: r => if n = name then some ([], r) else none   -- "unexpected end element"
      | XTok.chars s :: r => (parseBody fuel name r).map fun (ps, r') => (Part.text s :: ps, r')
      | XTok.comment s :: r => (parseBody fuel name r).map fun (ps, r') => (Part.text ("<!--" ++ s ++ "-->") :: ps, r')
      | XTok.start n a :: r =>
        match parseBody fuel n r with
        | none => none
        | some (kids, r1) =>
          (parseBody fuel name r1).map fun (ps, r2) => (Part.node (Node.mk n a kids) :: ps, r2)

def parseDoc (ts : List XTok) : Option Node :=
  match ts with
  | XTok.start n a :: r =>
    match parseBody (r.length + 1) n r with
    | some (kids, _) => some (Node.mk n a kids)
    | none => none
  | _ => none

def noComment : List XTok → Bool
  | [] => true
  | XTok.comment _ :: _ => false
  | _ :: r => noComment r

theorem noComment_append (a b : List XTok) : noComment (a ++ b) = (noComment a && noComment b) := by
  induction a with
  | nil => simp [noComment]
  | cons x r ih => cases x <;> simp [noComment, ih]

/-- `noComment`: a comment becomes a text part, which prints as `chars` -/
theorem parseBody_sound (fuel : Nat) (name : String) (ts : List XTok) (ps : List (Part Node)) (rest : List XTok)
    (hc : noComment ts = true) (h : parseBody fuel name ts = some (ps, rest)) : ts = partsToks ps ++ XTok.stop name :: rest := by
  -- `hts`: the head token; `hk`, `ihk`: the child; `ih`: what follows
  fun_induction parseBody fuel name ts generalizing ps rest with
  | case1 | case2 | case4 | case7 => nomatch h
  | case3 _ _ _ _ _ hts =>                     -- end tag
    cases h; exact hts
  | case5 _ ts _ _ s _ hts ih =>               -- chars
    obtain ⟨⟨ps', r'⟩, hp, heq⟩ := Option.map_eq_some_iff.mp h
    cases heq
    obtain rfl : ts = _ := hts
    exact congrArg (XTok.chars s :: ·) (ih ps' rest hc hp)
  | case6 _ ts _ _ _ _ hts _ =>                -- comment
    obtain rfl : ts = _ := hts
    nomatch hc
  | case8 _ ts _ _ _ _ r hts kids r1 hk ihk ih =>    -- child
    obtain ⟨⟨ps', r2⟩, hp, heq⟩ := Option.map_eq_some_iff.mp h
    cases heq
    obtain rfl : ts = _ := hts
    have hc' : noComment r = true := hc
    have h1 := ihk kids r1 hc' hk
    rw [h1, noComment_append, Bool.and_eq_true] at hc'
    rw [h1, ih ps' rest hc'.2 hp, partsToks, Node.toks]
    simp only [List.cons_append, List.append_assoc, List.nil_append]

theorem parseDoc_sound (ts : List XTok) (n : Node) (hc : noComment ts = true) (h : parseDoc ts = some n) :
    ∃ rest, ts = n.toks ++ rest := by
  revert h
  fun_cases parseDoc ts with
  | case1 nm a r kids rest hk =>
    rintro ⟨⟩
    refine ⟨rest, ?_⟩
    rw [Node.toks, List.cons_append, List.append_assoc, List.singleton_append, ← parseBody_sound _ nm r kids rest hc hk]
  | case2 | case3 => exact nofun

theorem partsToks_append (a b : List (Part Node)) : partsToks (a ++ b) = partsToks a ++ partsToks b := by
  induction a with
  | nil => rfl
  | cons p r ih => cases p <;> simp [partsToks, ih]

/-- **Completeness**, given fuel for the tokens -/
theorem parseBody_complete : ∀ (fuel : Nat) (name : String) (ps : List (Part Node)) (rest : List XTok),
    (partsToks ps).length < fuel → parseBody fuel name (partsToks ps ++ XTok.stop name :: rest) = some (ps, rest)
  | 0, _, _, _, h => absurd h (Nat.not_lt_zero _)
  | fuel + 1, name, [], rest, _ => by
    rw [partsToks, List.nil_append, parseBody]
    exact if_pos rfl
  | fuel + 1, name, .text s :: r, rest, h => by
    rw [partsToks, List.cons_append, parseBody, parseBody_complete fuel name r rest (Nat.lt_of_succ_lt_succ h)]
    rfl
  | fuel + 1, name, .node (.mk nm a m) :: r, rest, h => by
    simp only [partsToks, Node.toks, List.length_cons, List.length_append, List.length_nil] at h
    simp only [partsToks, Node.toks, List.cons_append, List.append_assoc, List.nil_append]
    rw [parseBody]
    simp only []    -- iota
    rw [parseBody_complete fuel nm m _ (by omega)]
    simp only []    -- iota
    rw [parseBody_complete fuel name r rest (by omega)]
    rfl

theorem parseDoc_complete (n : Node) (rest : List XTok) : parseDoc (n.toks ++ rest) = some n := by
  obtain ⟨nm, a, m⟩ := n
  simp only [Node.toks, List.cons_append, List.append_assoc, parseDoc, List.nil_append]
  rw [parseBody_complete ((partsToks m ++ XTok.stop nm :: rest).length + 1) nm m rest (by simp; omega)]

end Gomjml.Tree
