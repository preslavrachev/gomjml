import Gomjml.Core.Util
namespace Gomjml.Amp
/-! `escapeAttributeAmpersands` (`parser/parser.go`) as a byte scanner with its state spelt out (`esc`); in front of the
    lemmas on it `endsOnlyAt`, which the files on the other passes share. -/

abbrev B := UInt8

def amp : B := 38      -- '&'
def semi : B := 59     -- ';'
def lt : B := 60
def gt : B := 62
def dq : B := 34
def sq : B := 39

/-- `isEntityTerminator` -/
def isTerm (b : B) : Bool :=
  b == semi || b == amp || b == 32 || b == 10 || b == 9 || b == dq || b == sq || b == lt || b == gt

/-- `isValidEntity`, a parameter here (`Passes.entTable`) -/
structure Ent where
  valid : List B → Bool

/-- the look-ahead of the Go loop.  On a valid entity Go writes `&name;` at once; `esc` writes `&` and copies the name byte by
    byte: the same, as no name byte is a terminator, so none a quote or `&` (Go's test `content[j] != quote` is idle) -/
def entityAhead (E : Ent) (rest : List B) : Bool :=
  let name := rest.takeWhile (fun b => !isTerm b)
  match rest.dropWhile (fun b => !isTerm b) with
  | b :: _ => b == semi && E.valid name
  | [] => false

def ampEsc : List B := [amp, 97, 109, 112, semi]   -- "&amp;"

def cmOpen : List B := [33, 45, 45]                          -- "!--"   (behind the '<')
def cmClose : List B := [45, 45, 62]                         -- "-->"
def cdOpen : List B := [33, 91, 67, 68, 65, 84, 65, 91]      -- "![CDATA["
def cdClose : List B := [93, 93, 62]                         -- "]]>"

def closer (blk : Nat) : List B := if blk = 0 then cmClose else cdClose

def opener (kind : Nat) : List B := if kind = 0 then cmOpen else cdOpen

/-- the scanner; `quote = 0`: not inside a quoted attribute value.  `sk` bytes of a comment or CDATA section (`nonMarkupEnd`)
    are still to be copied: 3 and 8 for the openers, 2 behind the first byte of a terminator.  State `blk = 1` inside a
    comment, 2 inside a CDATA section; `closer`, `opener` and the block lemmas take the `kind`, `blk - 1` -/
def esc (E : Ent) : (inTag : Bool) → (quote : B) → (sk blk : Nat) → List B → List B
  | _, _, _, _, [] => []
  | inTag, q, sk + 1, blk, b :: rest => b :: esc E inTag q sk blk rest
  | inTag, q, 0, blk + 1, b :: rest =>
    if (closer blk).isPrefixOf (b :: rest) then b :: esc E inTag q 2 0 rest
    else b :: esc E inTag q 0 (blk + 1) rest
  | inTag, q, 0, 0, b :: rest =>
    if q != 0 then
      if b == q then b :: esc E inTag 0 0 0 rest
      else if b == amp then
        (if entityAhead E rest then [b] else ampEsc) ++ esc E inTag q 0 0 rest
      else b :: esc E inTag q 0 0 rest
    else if b == lt && cmOpen.isPrefixOf rest then b :: esc E inTag 0 3 1 rest
    else if b == lt && cdOpen.isPrefixOf rest then b :: esc E inTag 0 8 2 rest
    else
      let inTag' := if b == lt then true else if b == gt then false else inTag
      let q' := if (b == dq || b == sq) && inTag then b else 0
      b :: esc E inTag' q' 0 0 rest

/-- no `close` starts inside `body`, not even one that runs over into the `close` behind it -/
def endsOnlyAt (close body : List B) : Prop := ∀ k, k < body.length → close.isPrefixOf ((body ++ close).drop k) = false

theorem endsOnlyAt_of_all {close body : List B}
    (h : (List.range body.length).all (fun k => !close.isPrefixOf ((body ++ close).drop k)) = true) : endsOnlyAt close body :=
  fun k hk => (Bool.not_eq_true' _).mp (List.all_eq_true.mp h k (List.mem_range.mpr hk))

theorem endsOnlyAt_cons_iff {close : List B} {x : B} {t : List B} (rest : List B) :
    endsOnlyAt close (x :: t) ↔ close.isPrefixOf (x :: (t ++ close ++ rest)) = false ∧ endsOnlyAt close t := by
  have e : close.isPrefixOf (x :: (t ++ close ++ rest)) = close.isPrefixOf (x :: t ++ close) :=
    isPrefixOf_append_left close (x :: t ++ close) rest (by simp only [List.length_append]; omega)
  rw [e]
  exact ⟨fun h => ⟨h 0 (Nat.zero_lt_succ _), fun k hk => h (k + 1) (Nat.succ_lt_succ hk)⟩,
    fun ⟨h0, h⟩ k hk => match k, hk with
      | 0, _ => h0
      | k + 1, hk => h k (Nat.lt_of_succ_lt_succ hk)⟩

theorem esc_blk_end (E : Ent) (inTag : Bool) (q : B) (kind : Nat) (b : B) (rest : List B)
    (h : (closer kind).isPrefixOf (b :: rest) = true) :
    esc E inTag q 0 (kind + 1) (b :: rest) = b :: esc E inTag q 2 0 rest := by
  rw [esc, if_pos h]

theorem esc_blk_in (E : Ent) (inTag : Bool) (q : B) (kind : Nat) (b : B) (rest : List B)
    (h : (closer kind).isPrefixOf (b :: rest) = false) :
    esc E inTag q 0 (kind + 1) (b :: rest) = b :: esc E inTag q 0 (kind + 1) rest := by
  rw [esc, if_neg (Bool.eq_false_iff.mp h)]

theorem esc_copy (E : Ent) (inTag : Bool) (q b : B) (rest : List B) (hq : (q != 0) = true) (hbq : (b == q) = false) (hba : (b == amp) = false) :
    esc E inTag q 0 0 (b :: rest) = b :: esc E inTag q 0 0 rest := by
  rw [esc, if_pos hq, if_neg (Bool.eq_false_iff.mp hbq), if_neg (Bool.eq_false_iff.mp hba)]

theorem esc_at_amp (E : Ent) (inTag : Bool) (q : B) (rest : List B) (hq : (q != 0) = true) (haq : (amp == q) = false) :
    esc E inTag q 0 0 (amp :: rest) = (if entityAhead E rest then [amp] else ampEsc) ++ esc E inTag q 0 0 rest := by
  rw [esc, if_pos hq, if_neg (Bool.eq_false_iff.mp haq), if_pos (beq_self_eq_true amp)]

theorem esc_noamp (E : Ent) : ∀ (s : List B) (inTag : Bool) (q : B) (sk blk : Nat), (∀ b ∈ s, b ≠ amp) → esc E inTag q sk blk s = s := by
  intro s inTag q sk blk h
  -- in each case the goal is `b :: esc … rest = b :: rest`
  fun_induction esc E inTag q sk blk s
  case case1 => rfl
  -- but for `&` inside a quoted value, which `h` excludes
  case case6 b rest _ _ hb _ => exact absurd (eq_of_beq hb) (h b List.mem_cons_self)
  all_goals
    rename_i ih
    rw [ih fun x hx => h x (List.mem_cons_of_mem _ hx)]

/-- outside quoted values nothing changes -/
theorem esc_noquote (E : Ent) : ∀ (s : List B) (inTag : Bool) (sk blk : Nat), (∀ b ∈ s, b ≠ dq ∧ b ≠ sq) → esc E inTag 0 sk blk s = s := by
  intro s inTag sk blk h
  generalize hq : (0 : B) = q at *
  fun_induction esc E inTag q sk blk s
  case case1 => rfl
  -- the three branches inside a quoted value: `q` is 0
  case case5 hq0 _ _ | case6 hq0 _ _ _ | case7 hq0 _ _ _ =>
    subst hq
    exact absurd hq0 (by decide)
  -- no quote character, so `q'` is 0 again
  case case10 b rest _ _ _ inTag' q' ih =>
    have hb := h b List.mem_cons_self
    have hq' : 0 = q' := by
      show 0 = if ((b == dq || b == sq) && _) = true then b else 0
      rw [beq_eq_false_iff_ne.mpr hb.1, beq_eq_false_iff_ne.mpr hb.2]
      rfl
    rw [ih (fun x hx => h x (List.mem_cons_of_mem _ hx)) hq']
  -- the quote stays what it is (`exact hq`) or is the literal 0 at an opener (`rfl`)
  all_goals
    rename_i ih
    rw [ih (fun x hx => h x (List.mem_cons_of_mem _ hx)) (by first | rfl | exact hq)]

theorem entityAhead_amp (E : Ent) (hE : E.valid [97, 109, 112] = true) (rest : List B) :
    entityAhead E (97 :: 109 :: 112 :: semi :: rest) = true := by
  show (semi == semi && E.valid [97, 109, 112]) = true
  rw [hE]
  rfl

theorem quote_ne {q : B} (hq : q = dq ∨ q = sq) : (q != 0) = true ∧ ∀ b : B, b ≠ dq → b ≠ sq → (b == q) = false := by
  rcases hq with rfl | rfl
  · exact ⟨by decide, fun b h _ => beq_false_of_ne h⟩
  · exact ⟨by decide, fun b _ h => beq_false_of_ne h⟩

theorem esc_amp_entity (E : Ent) (hE : E.valid [97, 109, 112] = true) (inTag : Bool) (q : B) (hq : q = dq ∨ q = sq) (rest : List B) :
    esc E inTag q 0 0 (ampEsc ++ rest) = ampEsc ++ esc E inTag q 0 0 rest := by
  obtain ⟨hq0, hne⟩ := quote_ne hq
  show esc E inTag q 0 0 (amp :: 97 :: 109 :: 112 :: semi :: rest) = amp :: 97 :: 109 :: 112 :: semi :: esc E inTag q 0 0 rest
  rw [esc_at_amp E inTag q _ hq0 (hne amp (by decide) (by decide)), entityAhead_amp E hE rest,
    esc_copy E inTag q 97 _ hq0 (hne 97 (by decide) (by decide)) (by decide),
    esc_copy E inTag q 109 _ hq0 (hne 109 (by decide) (by decide)) (by decide),
    esc_copy E inTag q 112 _ hq0 (hne 112 (by decide) (by decide)) (by decide),
    esc_copy E inTag q semi _ hq0 (hne semi (by decide) (by decide)) (by decide)]
  rfl

/-- **a bare ampersand in an attribute value is read like `&amp;`**, where no entity follows -/
theorem esc_bare_amp (E : Ent) (hE : E.valid [97, 109, 112] = true) (inTag : Bool) (q : B) (hq : q = dq ∨ q = sq)
    (rest : List B) (h : entityAhead E rest = false) :
    esc E inTag q 0 0 (amp :: rest) = esc E inTag q 0 0 (ampEsc ++ rest) := by
  obtain ⟨hq0, hne⟩ := quote_ne hq
  rw [esc_amp_entity E hE inTag q hq rest, esc_at_amp E inTag q rest hq0 (hne amp (by decide) (by decide)), h]
  rfl

theorem esc_skip (E : Ent) (inTag : Bool) (q : B) (blk : Nat) : ∀ (pre rest : List B),
    esc E inTag q pre.length blk (pre ++ rest) = pre ++ esc E inTag q 0 blk rest
  | [], rest => rfl
  | b :: pre, rest => by
    show esc E inTag q (pre.length + 1) blk (b :: (pre ++ rest)) = b :: (pre ++ esc E inTag q 0 blk rest)
    rw [esc, esc_skip E inTag q blk pre rest]

/-- the first byte of the terminator is copied at the test, two skipped -/
theorem esc_blk_close (E : Ent) (inTag : Bool) (q : B) : ∀ (kind : Nat) (rest : List B),
    esc E inTag q 0 (kind + 1) (closer kind ++ rest) = closer kind ++ esc E inTag q 0 0 rest
  | 0, rest => (esc_blk_end E inTag q 0 45 _ rfl).trans (congrArg (45 :: ·) (esc_skip E inTag q 0 [45, 62] rest))
  | _ + 1, rest => (esc_blk_end E inTag q _ 93 _ rfl).trans (congrArg (93 :: ·) (esc_skip E inTag q 0 [93, 62] rest))

theorem esc_block (E : Ent) (inTag : Bool) (q : B) (kind : Nat) : ∀ (body rest : List B),
    endsOnlyAt (closer kind) body →
    esc E inTag q 0 (kind + 1) (body ++ closer kind ++ rest) = body ++ closer kind ++ esc E inTag q 0 0 rest
  | [], rest, _ => esc_blk_close E inTag q kind rest
  | x :: t, rest, h => by
    obtain ⟨h0, ht⟩ := (endsOnlyAt_cons_iff rest).mp h
    show esc E inTag q 0 (kind + 1) (x :: (t ++ closer kind ++ rest)) = x :: (t ++ closer kind ++ esc E inTag q 0 0 rest)
    rw [esc_blk_in E inTag q kind x _ h0, esc_block E inTag q kind t rest ht]

theorem esc_open (E : Ent) (inTag : Bool) (kind : Nat) (hk : kind ≤ 1) (rest : List B) (h : (opener kind).isPrefixOf rest = true) :
    esc E inTag 0 0 0 (lt :: rest) = lt :: esc E inTag 0 (opener kind).length (kind + 1) rest := by
  rw [esc, if_neg (by decide)]
  match kind, hk, h with
  | 0, _, h => exact if_pos (show (lt == lt && cmOpen.isPrefixOf rest) = true from h)
  | 1, _, h =>
    -- `![CDATA[…` fails the test for `!--`, passes the one for `![CDATA[`, by evaluation
    obtain ⟨r, rfl⟩ := List.isPrefixOf_iff_prefix.mp h
    rfl

/-- **a comment (kind 0) or CDATA section (kind 1) is not markup** -/
theorem esc_nonmarkup (E : Ent) (inTag : Bool) (kind : Nat) (hk : kind ≤ 1) (body rest : List B) (h : endsOnlyAt (closer kind) body) :
    esc E inTag 0 0 0 (lt :: opener kind ++ body ++ closer kind ++ rest) =
      lt :: opener kind ++ body ++ closer kind ++ esc E inTag 0 0 0 rest := by
  show esc E inTag 0 0 0 (lt :: (opener kind ++ body ++ closer kind ++ rest)) =
    lt :: (opener kind ++ body ++ closer kind ++ esc E inTag 0 0 0 rest)
  have e : ∀ z, opener kind ++ body ++ closer kind ++ z = opener kind ++ (body ++ closer kind ++ z) := fun z => by
    simp only [List.append_assoc]
  rw [e, e, esc_open E inTag kind hk _ (isPrefixOf_append_self ..), esc_skip, esc_block E inTag 0 kind body rest h]

/-- **a comment is not markup**: copied as written, quotes, ampersands and all -/
theorem esc_comment (E : Ent) (inTag : Bool) (body rest : List B) (h : endsOnlyAt cmClose body) :
    esc E inTag 0 0 0 (lt :: cmOpen ++ body ++ cmClose ++ rest) = lt :: cmOpen ++ body ++ cmClose ++ esc E inTag 0 0 0 rest :=
  esc_nonmarkup E inTag 0 (Nat.zero_le 1) body rest h

theorem esc_cdata (E : Ent) (inTag : Bool) (body rest : List B) (h : endsOnlyAt cdClose body) :
    esc E inTag 0 0 0 (lt :: cdOpen ++ body ++ cdClose ++ rest) = lt :: cdOpen ++ body ++ cdClose ++ esc E inTag 0 0 0 rest :=
  esc_nonmarkup E inTag 1 (Nat.le_refl 1) body rest h

end Gomjml.Amp
