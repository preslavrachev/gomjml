import Gomjml.Core.Passes
/-! The parser's textual pre-passes and the lines (C17).  `ParseMJML` rewrites the text three times and looks line numbers up in
    the rewritten text.  `stripNonMSOComments` only removes bytes in front of the root; the other two passes are edit
    scripts, lists of kept bytes and replaced pieces: when every replaced piece keeps its line feeds (`LineOk`) no kept byte
    moves to another line (`rel_lines`). -/
namespace Gomjml.Lines
open Gomjml.Amp Gomjml.Passes

def nl (s : List B) : Nat := s.count 10

@[simp] theorem nl_nil : nl [] = 0 := rfl
@[simp] theorem nl_append (a b : List B) : nl (a ++ b) = nl a + nl b := List.count_append
/-- line feeds are a projection (`Passes.replaceAll_filter`, `voidNormF_filter`) -/
theorem nl_of_filter {a b : List B} (h : a.filter (· == 10) = b.filter (· == 10)) : nl a = nl b := by
  rw [nl, nl, List.count_eq_length_filter, List.count_eq_length_filter, h]

theorem nl_take_drop (s : List B) (k : Nat) : nl (s.take k) + nl (s.drop k) = nl s := by
  rw [← nl_append, List.take_append_drop]

theorem nl_cons_eq_zero {x : B} {a : List B} : nl (x :: a) = 0 ↔ x ≠ 10 ∧ nl a = 0 := by
  unfold nl
  rw [List.count_eq_zero, List.count_eq_zero, List.mem_cons, not_or, ← Ne, ne_comm]

inductive Seg where
  | keep (bs : List B)
  | repl (old new : List B)

def Seg.src : Seg → List B
  | .keep bs => bs
  | .repl o _ => o
def Seg.dst : Seg → List B
  | .keep bs => bs
  | .repl _ n => n

def srcOf (l : List Seg) : List B := l.flatMap Seg.src
def dstOf (l : List Seg) : List B := l.flatMap Seg.dst

@[simp] theorem srcOf_nil : srcOf [] = [] := rfl
@[simp] theorem dstOf_nil : dstOf [] = [] := rfl
@[simp] theorem srcOf_cons (g : Seg) (l : List Seg) : srcOf (g :: l) = g.src ++ srcOf l := List.flatMap_cons
@[simp] theorem dstOf_cons (g : Seg) (l : List Seg) : dstOf (g :: l) = g.dst ++ dstOf l := List.flatMap_cons
@[simp] theorem srcOf_append (a b : List Seg) : srcOf (a ++ b) = srcOf a ++ srcOf b := List.flatMap_append
@[simp] theorem dstOf_append (a b : List Seg) : dstOf (a ++ b) = dstOf a ++ dstOf b := List.flatMap_append

def Seg.ok (g : Seg) : Prop := nl g.src = nl g.dst
def LineOk (l : List Seg) : Prop := ∀ g ∈ l, g.ok

theorem lines_total : ∀ (l : List Seg), LineOk l → nl (srcOf l) = nl (dstOf l)
  | [], _ => rfl
  | g :: l, h => by
    obtain ⟨hg, hl⟩ := List.forall_mem_cons.mp h
    rw [srcOf_cons, dstOf_cons, nl_append, nl_append, lines_total l hl, hg]

/-- offsets `i` of the input and `j` of the output are the same place: the `m`-th byte (or the end) of one kept segment -/
def Rel (l : List Seg) (i j : Nat) : Prop :=
  ∃ (pre : List Seg) (bs : List B) (post : List Seg) (m : Nat), l = pre ++ Seg.keep bs :: post ∧ m ≤ bs.length ∧
    i = (srcOf pre).length + m ∧ j = (dstOf pre).length + m

theorem rel_lines (l : List Seg) (h : LineOk l) (i j : Nat) (r : Rel l i j) :
    nl ((srcOf l).take i) = nl ((dstOf l).take j) := by
  obtain ⟨pre, bs, post, m, rfl, hm, rfl, rfl⟩ := r
  simp only [srcOf_append, dstOf_append, srcOf_cons, dstOf_cons, Seg.src, Seg.dst]
  rw [List.take_length_add_append, List.take_length_add_append, List.take_append_of_le_length hm,
    List.take_append_of_le_length hm]
  simp only [nl_append]
  rw [lines_total pre (List.forall_mem_append.mp h).1]

theorem rel_byte (pre post : List Seg) (bs : List B) (m k : Nat) (hm : m + k < bs.length) :
    (srcOf (pre ++ Seg.keep bs :: post))[(srcOf pre).length + (m + k)]? =
      (dstOf (pre ++ Seg.keep bs :: post))[(dstOf pre).length + (m + k)]? := by
  simp only [srcOf_append, dstOf_append, srcOf_cons, dstOf_cons, Seg.src, Seg.dst]
  rw [List.getElem?_append_right (Nat.le_add_right _ _), List.getElem?_append_right (Nat.le_add_right _ _)]
  simp only [Nat.add_sub_cancel_left]
  rw [List.getElem?_append_left hm, List.getElem?_append_left hm]

/-- the segments `l` read `s`, write `d`, and move no line.  A pass `f` and its `fSegs` branch on the same tests: in each case
    of `fun_induction fSegs` the case hypotheses reduce one unfolding of `f` to the matching branch -/
structure Script (l : List Seg) (s d : List B) : Prop where
  src : srcOf l = s
  dst : dstOf l = d
  ok : LineOk l

namespace Script

theorem nil : Script [] [] [] := ⟨rfl, rfl, List.forall_mem_nil _⟩

theorem cons {g : Seg} (hg : g.ok) {l : List Seg} {s d : List B} (h : Script l s d) : Script (g :: l) (g.src ++ s) (g.dst ++ d) :=
  ⟨by rw [srcOf_cons, h.src], by rw [dstOf_cons, h.dst], List.forall_mem_cons.mpr ⟨hg, h.ok⟩⟩

theorem keep (bs : List B) {l : List Seg} {s d : List B} (h : Script l s d) : Script (.keep bs :: l) (bs ++ s) (bs ++ d) :=
  h.cons (g := .keep bs) rfl

theorem repl {o n : List B} (hn : nl o = nl n) {l : List Seg} {s d : List B} (h : Script l s d) :
    Script (.repl o n :: l) (o ++ s) (n ++ d) :=
  h.cons (g := .repl o n) hn

theorem whole (s : List B) : Script [.keep s] s s := by
  have := nil.keep s
  rwa [List.append_nil] at this

theorem keepTake (k : Nat) {l : List Seg} {s d : List B} (h : Script l (s.drop k) d) :
    Script (.keep (s.take k) :: l) s (s.take k ++ d) := by
  have := h.keep (s.take k)
  rwa [List.take_append_drop] at this

theorem replTake (k : Nat) {n : List B} {l : List Seg} {s d : List B} (hn : nl (s.take k) = nl n)
    (h : Script l (s.drop k) d) : Script (.repl (s.take k) n :: l) s (n ++ d) := by
  have := h.repl hn
  rwa [List.take_append_drop] at this

theorem replPrefix {o n : List B} (hn : nl o = nl n) {l : List Seg} {s d : List B} (hp : o.isPrefixOf s = true)
    (h : Script l (s.drop o.length) d) : Script (.repl o n :: l) s (n ++ d) := by
  have := h.repl hn
  rwa [prefix_split o s hp] at this

theorem withDstOf {l : List Seg} {s d : List B} (h : Script l s d) : Script l s (dstOf l) := h.dst ▸ h

/-- the form C17 states -/
theorem conj {l : List Seg} {s d : List B} (h : Script l s d) : srcOf l = s ∧ dstOf l = d ∧ LineOk l := ⟨h.src, h.dst, h.ok⟩

theorem total {l : List Seg} {s d : List B} (h : Script l s d) : nl s = nl d := by
  rw [← h.src, ← h.dst]
  exact lines_total l h.ok

theorem lines {l : List Seg} {s d : List B} (h : Script l s d) {i j : Nat} (r : Rel l i j) : nl (s.take i) = nl (d.take j) := by
  have := rel_lines l h.ok i j r
  rwa [h.src, h.dst] at this

end Script

/-! ### pass 1: `stripNonMSOComments` -/

theorem dropComments_sublist (s : List B) : (dropComments s).Sublist s := by
  fun_induction dropComments s
  case case1 => exact .refl _
  case case2 b r _ rest hac ih =>
    obtain ⟨pre, hpre⟩ := afterClose_split _ _ hac
    -- `pre ++ cClose ++ rest` is, by `hpre`, `(b :: r).drop 4`
    exact ih.trans ((List.sublist_append_right _ _).trans (hpre ▸ List.drop_sublist 4 (b :: r)))
  case case3 => exact List.nil_sublist _
  case case4 ih => exact ih.cons_cons _

theorem trimLeft_sublist : ∀ (s : List B), (trimLeft s).Sublist s
  | [] => List.Sublist.refl _
  | b :: r => by
    unfold trimLeft
    split
    · exact (trimLeft_sublist r).trans (List.sublist_cons_self _ _)
    · exact List.Sublist.refl _

/-- **lines in front of the root**: a place at or behind the root element has, in the stripped text, `strippedLines`
    (`nl s - nl (strip s)`) fewer line feeds in front of it than in the input -/
theorem strip_lines (s p root : List B) (h : splitAtRoot s = some (p, root)) (m : Nat) :
    nl ((strip s).take ((trimLeft (dropComments p)).length + m)) + (nl s - nl (strip s)) = nl (s.take (p.length + m)) := by
  have hs : s = p ++ root := by
    obtain ⟨i, _, hi⟩ := Option.map_eq_some_iff.mp h
    cases hi
    exact (List.take_append_drop i s).symm
  have hst : strip s = trimLeft (dropComments p) ++ root := by unfold strip; rw [h]
  have hle : nl (trimLeft (dropComments p)) ≤ nl p := by
    unfold nl
    exact List.Sublist.count_le _ ((trimLeft_sublist _).trans (dropComments_sublist p))
  subst hs
  rw [hst, List.take_length_add_append, List.take_length_add_append]
  simp only [nl_append]
  -- by `hle` the truncated subtraction is exact
  omega

theorem strip_none (s : List B) (h : splitAtRoot s = none) : strip s = s := by unfold strip; rw [h]

/-! ### pass 2a: `escapeAttributeAmpersands` -/

/-- `Amp.esc` line for line, with `.keep [b]` for `b ::` -/
def escSegs (E : Ent) : (inTag : Bool) → (quote : B) → (sk blk : Nat) → List B → List Seg
  | _, _, _, _, [] => []
  | inTag, q, sk + 1, blk, b :: rest => .keep [b] :: escSegs E inTag q sk blk rest
  | inTag, q, 0, blk + 1, b :: rest =>
    if (closer blk).isPrefixOf (b :: rest) then .keep [b] :: escSegs E inTag q 2 0 rest
    else .keep [b] :: escSegs E inTag q 0 (blk + 1) rest
  | inTag, q, 0, 0, b :: rest =>
    if q != 0 then
      if b == q then .keep [b] :: escSegs E inTag 0 0 0 rest
      else if b == amp then
        (if entityAhead E rest then Seg.keep [b] else Seg.repl [b] ampEsc) :: escSegs E inTag q 0 0 rest
      else .keep [b] :: escSegs E inTag q 0 0 rest
    else if b == lt && cmOpen.isPrefixOf rest then .keep [b] :: escSegs E inTag 0 3 1 rest
    else if b == lt && cdOpen.isPrefixOf rest then .keep [b] :: escSegs E inTag 0 8 2 rest
    else
      let inTag' := if b == lt then true else if b == gt then false else inTag
      let q' := if (b == dq || b == sq) && inTag then b else 0
      .keep [b] :: escSegs E inTag' q' 0 0 rest

theorem escSegs_script (E : Ent) (s : List B) (t : Bool) (q : B) (sk blk : Nat) :
    Script (escSegs E t q sk blk s) s (esc E t q sk blk s) := by
  fun_induction escSegs E t q sk blk s
  all_goals rw [esc]
  case case1 => exact .nil
  case case2 ih => exact .keep [_] ih
  -- the one place where the pass may write something else
  case case6 b rest _ _ hb ih =>
    simp only [*, ↓reduceIte]
    split
    · exact .keep [b] ih
    · exact .repl (by rw [eq_of_beq hb]; decide) ih
  all_goals
    simp only [*, ↓reduceIte]
    exact .keep [_] ‹_›

theorem escSegs_ok (E : Ent) : ∀ (s : List B) (t : Bool) (q : B) (sk blk : Nat), LineOk (escSegs E t q sk blk s) :=
  fun s t q sk blk => (escSegs_script E s t q sk blk).ok

/-! ### a plain `strings.ReplaceAll` (the `]]>` escape, `trimBR`), scripted for `replaceAll_nl` -/

def replSegs (old new : List B) (s : List B) : List Seg :=
  if hold : old = [] then [.keep s] else
  match s with
  | [] => []
  | b :: rest =>
    if old.isPrefixOf (b :: rest) then .repl old new :: replSegs old new ((b :: rest).drop old.length)
    else .keep [b] :: replSegs old new rest
termination_by s.length
decreasing_by
  · have : 0 < old.length := by cases old <;> simp_all
    simp only [List.length_drop, List.length_cons]; omega
  · simp

theorem replSegs_script (old new : List B) (h : nl old = nl new) (s : List B) :
    Script (replSegs old new s) s (replaceAll old new s) := by
  fun_induction replSegs old new s
  all_goals rw [replaceAll.eq_def]; simp only [*, ↓reduceDIte, ↓reduceIte, Bool.false_eq_true]
  case case1 => exact .whole _
  case case2 => exact .nil
  case case3 hp ih => exact .replPrefix h hp ih
  case case4 ih => exact .keep [_] ih

/-- `n` is not used -/
theorem replSegs_ok (old new : List B) (h : nl old = nl new) : ∀ (n : Nat) (s : List B), s.length ≤ n → LineOk (replSegs old new s) :=
  fun _ s _ => (replSegs_script old new h s).ok

theorem replaceAll_nl (old new : List B) (h : nl old = nl new) (s : List B) : nl (replaceAll old new s) = nl s :=
  (replSegs_script old new h s).total.symm

/-! ### pass 2b: a `replaceInMarkup` step -/

def replSegsM (old new : List B) (s : List B) : List Seg :=
  if hold : old = [] then [.keep s] else
  match s with
  | [] => []
  | b :: rest =>
    if hk : 0 < nonMarkupLen (b :: rest) then
      .keep ((b :: rest).take (nonMarkupLen (b :: rest))) :: replSegsM old new ((b :: rest).drop (nonMarkupLen (b :: rest)))
    else if old.isPrefixOf (b :: rest) then .repl old new :: replSegsM old new ((b :: rest).drop old.length)
    else .keep [b] :: replSegsM old new rest
termination_by s.length
decreasing_by
  · simp only [List.length_drop, List.length_cons]; omega
  · have : 0 < old.length := by cases old <;> simp_all
    simp only [List.length_drop, List.length_cons]; omega
  · simp

theorem replSegsM_script (old new : List B) (h : nl old = nl new) (s : List B) :
    Script (replSegsM old new s) s (replaceAllM old new s) := by
  fun_induction replSegsM old new s
  all_goals rw [replaceAllM.eq_def]; simp only [*, ↓reduceDIte, ↓reduceIte, Bool.false_eq_true]
  case case1 => exact .whole _
  case case2 => exact .nil
  case case3 ih => exact .keepTake _ ih
  case case4 hp ih => exact .replPrefix h hp ih
  case case5 ih => exact .keep [_] ih

/-! ### pass 3: `wrapMJTextContent`, byte for byte -/

def openN : List B := [60, 109, 106, 45, 116, 101, 120, 116]        -- "<mj-text"
def stem : List B := [60, 47, 109, 106, 45, 116, 101, 120, 116]     -- "</mj-text"  (closeNeedle without its '>')

def eqFold : List B → List B → Bool
  | [], [] => true
  | a :: as, b :: bs => lower a == lower b && eqFold as bs
  | _, _ => false

def prefixCI (needle s : List B) : Bool := eqFold (s.take needle.length) needle

def indexCI (needle : List B) : List B → Option Nat
  | [] => none
  | b :: rest => if prefixCI needle (b :: rest) then some 0 else (indexCI needle rest).map (· + 1)

/-- `findTagEnd`: the offset just behind the first `>` outside quotes -/
def tagEndAux : B → List B → Option Nat
  | _, [] => none
  | q, c :: rest =>
    if q != 0 then (tagEndAux (if c == q then 0 else q) rest).map (· + 1)
    else if c == dq || c == sq then (tagEndAux c rest).map (· + 1)
    else if c == gt then some 1
    else (tagEndAux 0 rest).map (· + 1)

/-- `previousNonSpace` (the tag starts with `<`, so the scan never leaves the tag) -/
def lastNonSpace (s : List B) : B :=
  match s.reverse.dropWhile isWs with
  | b :: _ => b
  | [] => 0

def findTagEnd (s : List B) : Option (Nat × Bool) :=
  (tagEndAux 0 s).map fun e => (e, decide (0 < e - 1) && lastNonSpace (s.take (e - 1)) == 47)

/-- `indexMJTextClose`: (offset, length) of the first `</mj-text` + white space + `>` -/
def findClose : List B → Option (Nat × Nat)
  | [] => none
  | b :: rest =>
    if prefixCI stem (b :: rest) then
      match ((b :: rest).drop stem.length).dropWhile isWs with
      | 62 :: _ => some (0, stem.length + (((b :: rest).drop stem.length).takeWhile isWs).length + 1)
      | _ => (findClose rest).map (fun p => (p.1 + 1, p.2))
    else (findClose rest).map (fun p => (p.1 + 1, p.2))

/-- one literal of the void-tag pattern under `(?i)` (Go folds `k` with U+212A, `s` with U+017F); `lower x == c` is right
    because every void name is lower-case a–z (`C17_prepass_source`) -/
def matchFold : (name : List B) → (inp : List B) → Option (List B × List B)
  | [], inp => some ([], inp)
  | c :: cs, inp =>
    match inp with
    | [] => none
    | x :: xs =>
      if lower x == c then (matchFold cs xs).map (fun p => (x :: p.1, p.2))
      else if c == 107 then
        match inp with
        | 0xE2 :: 0x84 :: 0xAA :: xs' => (matchFold cs xs').map (fun p => (0xE2 :: 0x84 :: 0xAA :: p.1, p.2))
        | _ => none
      else if c == 115 then
        match inp with
        | 0xC5 :: 0xBF :: xs' => (matchFold cs xs').map (fun p => (0xC5 :: 0xBF :: p.1, p.2))
        | _ => none
      else none

def firstGt : List B → Option Nat
  | [] => none
  | b :: rest => if b == gt then some 0 else (firstGt rest).map (· + 1)

/-- a match of `(?:names)([^>]*?)/>` behind a `<`: (matched bytes without `<` and `/>`, what follows).  `[^>]*?` cannot cross
    a `>`, so `/>` can only stand at the first `>`: `g = 0` is "no slash", only `rem.drop (g - 1)` is looked at -/
def voidAt (names : List (List B)) (rest : List B) : Option (List B × List B) :=
  names.findSome? fun n =>
    match matchFold n rest with
    | none => none
    | some (c, rem) =>
      match firstGt rem with
      | none => none
      | some g =>
        if g = 0 then none else
        match rem.drop (g - 1) with
        | 47 :: 62 :: after => some (c ++ rem.take (g - 1), after)
        | _ => none

def trimRightSp (s : List B) : List B := (s.reverse.dropWhile (· == 32)).reverse

def voidNormF (names : List (List B)) : Nat → List B → List B
  | 0, s => s
  | _, [] => []
  | fuel + 1, b :: rest =>
    if b == 60 then
      match voidAt names rest with
      | some (pre, after) => trimRightSp (60 :: pre) ++ [32, 47, 62] ++ voidNormF names fuel after
      | none => b :: voidNormF names fuel rest
    else b :: voidNormF names fuel rest

/-- `normalizeSelfClosingVoidTags` (parser.go:734) -/
def voidNorm (s : List B) : List B := voidNormF Gomjml.Gen.Parser.voidElementsB (s.length + 1) s

/-- `bytes.Index` -/
def indexSub (pat : List B) : List B → Option Nat
  | [] => if pat = [] then some 0 else none
  | b :: r => if pat.isPrefixOf (b :: r) then some 0 else (indexSub pat r).map (· + 1)

def wrapPiece (s : List B) : List B := cdStart ++ replaceAll cdEnd cdEndSafe s ++ cdEnd

/-- `wrapOutsideCDATA` (parser.go:597): the author's sections as written, every stretch around them in a section of its
    own; a section that does not end is left to the XML layer -/
def wrapOutside : Nat → List B → List B
  | 0, s => s
  | fuel + 1, s =>
    if s = [] then [] else
    match indexSub cdStart s with
    | none => wrapPiece s
    | some idx =>
      (if idx = 0 then [] else wrapPiece (s.take idx)) ++
      (match indexSub cdEnd (s.drop idx) with
       | none => s.drop idx
       | some e => (s.drop idx).take (e + 3) ++ wrapOutside fuel ((s.drop idx).drop (e + 3)))

/-- parser.go:566–579, for the content of one mj-text -/
def wrapInner (inner : List B) : List B :=
  if cdStart.isPrefixOf (inner.dropWhile isWs) then wrapOutside ((voidNorm inner).length + 1) (voidNorm inner)
  else cdStart ++ replaceAll cdEnd cdEndSafe (voidNorm inner) ++ cdEnd

/-- the loop of `wrapMJTextContent` (parser.go:526).  The fuel `length + 1`, here and in `voidNorm`, `wrapInner`: every round
    consumes a byte; at fuel 0 the rest is kept.  The name part of the end tag is a `.repl`: Go writes a lower-case
    `</mj-text` over the author's spelling -/
def wrapSegs : Nat → List B → List Seg
  | 0, s => [.keep s]
  | fuel + 1, s =>
    match indexCI openN s with
    | none => [.keep s]
    | some idx =>
      match findTagEnd (s.drop idx) with
      | none => [.keep (s.take idx), .keep (s.drop idx)]
      | some (e, selfc) =>
        if selfc then .keep (s.take idx) :: .keep ((s.drop idx).take e) :: wrapSegs fuel ((s.drop idx).drop e)
        else
          match findClose ((s.drop idx).drop e) with
          | none => [.keep (s.take idx), .keep ((s.drop idx).take e), .keep ((s.drop idx).drop e)]
          | some (ci, len) =>
            .keep (s.take idx) :: .keep ((s.drop idx).take e) ::
              .repl (((s.drop idx).drop e).take ci) (wrapInner (((s.drop idx).drop e).take ci)) ::
              .repl (((((s.drop idx).drop e).drop ci).take len).take stem.length) stem ::
              .keep (((((s.drop idx).drop e).drop ci).take len).drop stem.length) ::
              wrapSegs fuel ((((s.drop idx).drop e).drop ci).drop len)

def wrap (s : List B) : List B := dstOf (wrapSegs (s.length + 1) s)

theorem matchFold_split (name inp c r : List B) (h : matchFold name inp = some (c, r)) : inp = c ++ r := by
  fun_induction matchFold name inp generalizing c r with
  | case1 inp =>
    cases h
    rfl
  | case2 => cases h
  | case3 c cs b rest _ ih => exact map_split (pre := [b]) ih h
  -- the Kelvin sign
  | case4 c cs b rest _ _ xs' heq ih =>
    cases heq
    exact map_split (pre := [0xE2, 0x84, 0xAA]) ih h
  -- `k` without a Kelvin sign, `s` without a long s: `none`
  | case5 _ _ _ _ _ _ hno =>
    split at h
    · exact (hno _ ‹_›).elim
    · cases h
  -- the long s
  | case6 c cs b rest _ _ _ xs' heq ih =>
    cases heq
    exact map_split (pre := [0xC5, 0xBF]) ih h
  | case7 _ _ _ _ _ _ _ hno =>
    split at h
    · exact (hno _ ‹_›).elim
    · cases h
  | case8 => cases h

theorem cut_slash_gt {rem after : List B} {g : Nat} (c : List B) (hd : rem.drop g = 47 :: 62 :: after) :
    c ++ rem = c ++ rem.take g ++ [47, 62] ++ after := by
  rw [List.append_assoc, List.append_assoc, List.cons_append, List.cons_append, List.nil_append, ← hd, List.take_append_drop]

theorem voidAt_split {names : List (List B)} {rest pre after : List B} (h : voidAt names rest = some (pre, after)) :
    rest = pre ++ [47, 62] ++ after := by
  unfold voidAt at h
  obtain ⟨n, _, hn⟩ := List.exists_of_findSome?_eq_some h
  -- every branch of `voidAt` but the innermost returns `none`
  split at hn
  · cases hn
  · rename_i c rem hmf
    split at hn
    · cases hn
    · split at hn
      · cases hn
      · split at hn
        · rename_i hdrop
          cases hn
          exact (matchFold_split n rest c rem hmf).trans (cut_slash_gt c hdrop)
        · cases hn

theorem voidStep_filter {p q : B → Bool} (h : ∀ b, p b = true → q b = false) {pre mid after out : List B}
    (hmid : mid.filter q = ([47, 62] : List B).filter q) (hout : out.filter q = after.filter q) :
    (((60 :: pre).reverse.dropWhile p).reverse ++ mid ++ out).filter q = (60 :: (pre ++ [47, 62] ++ after)).filter q := by
  rw [List.filter_append, List.filter_append, filter_trimRight h, hmid, hout, ← List.filter_append, ← List.filter_append]
  rfl

theorem voidNormF_filter {q : B → Bool} (h32 : q 32 = false) (names : List (List B)) (fuel : Nat) (s : List B) :
    (voidNormF names fuel s).filter q = s.filter q := by
  fun_induction voidNormF names fuel s
  case case1 | case2 => rfl
  -- `trimRightSp` unfolds to the `reverse.dropWhile.reverse` of `voidStep_filter`
  case case3 fuel b rest hb pre after hv ih =>
    rw [eq_of_beq hb, voidAt_split hv]
    exact voidStep_filter (fun b hb => by rw [eq_of_beq hb, h32]) (List.filter_cons_of_neg (by simp [h32])) ih
  case case4 ih | case5 ih => exact filter_cons_congr _ ih

theorem voidNorm_nl (s : List B) : nl (voidNorm s) = nl s := nl_of_filter (voidNormF_filter (by decide) _ _ s)

theorem wrapPiece_nl (s : List B) : nl (wrapPiece s) = nl s := by
  rw [wrapPiece, nl_append, nl_append, replaceAll_nl cdEnd cdEndSafe (by decide), show nl cdStart = 0 by decide,
    show nl cdEnd = 0 by decide, Nat.zero_add, Nat.add_zero]

theorem wrapOutside_nl (fuel : Nat) (s : List B) : nl (wrapOutside fuel s) = nl s := by
  fun_induction wrapOutside fuel s
  case case1 | case2 => rfl
  case case3 => exact wrapPiece_nl _
  case case4 s _ idx _ ih =>
    have hpre : nl (if idx = 0 then [] else wrapPiece (s.take idx)) = nl (s.take idx) := by
      split
      · rename_i h0
        rw [h0]
        rfl
      · exact wrapPiece_nl _
    rw [nl_append, hpre, ← nl_take_drop s idx]
    congr 1
    -- whether the author's section ends (`indexSub cdEnd`)
    split
    · rfl
    · rw [nl_append, ih, nl_take_drop]

theorem wrapInner_nl (inner : List B) : nl (wrapInner inner) = nl inner := by
  unfold wrapInner
  split
  · rw [wrapOutside_nl]
    exact voidNorm_nl inner
  -- the other branch is `wrapPiece (voidNorm inner)` written out
  · exact (wrapPiece_nl _).trans (voidNorm_nl inner)

/-- `x + 32 = 10` means `x = 234`, no capital -/
theorem lower_lf (x : B) (h : lower x = 10) : x = 10 := by
  unfold lower at h
  split at h
  · rename_i hc
    have hx : x = 234 := by rw [← UInt8.add_sub_cancel x 32, h]; rfl
    subst hx
    exact absurd hc (by decide)
  · exact h

theorem eqFold_nl (a b : List B) (h : eqFold a b = true) (hb : nl b = 0) : nl a = 0 := by
  fun_induction eqFold a b with
  | case1 => rfl
  | case2 x as y bs ih =>
    rw [Bool.and_eq_true, beq_iff_eq] at h
    obtain ⟨hy, hbs⟩ := nl_cons_eq_zero.mp hb
    exact nl_cons_eq_zero.mpr ⟨fun e => hy (lower_lf y (by rw [← h.1, e]; rfl)), ih h.2 hbs⟩
  | case3 => cases h

theorem findClose_spec (u : List B) (ci len : Nat) (h : findClose u = some (ci, len)) :
    prefixCI stem (u.drop ci) = true ∧ stem.length ≤ len := by
  fun_induction findClose u generalizing ci len with
  | case1 => cases h
  | case2 b rest hp =>
    cases h
    exact ⟨hp, by omega⟩
  | case3 b rest _ _ ih | case4 b rest _ ih =>
    obtain ⟨q, hq, hqe⟩ := Option.map_eq_some_iff.mp h
    cases hqe
    exact ih _ _ hq

theorem stem_nl {u : List B} {ci len : Nat} (hfc : findClose u = some (ci, len)) :
    nl (((u.drop ci).take len).take stem.length) = nl stem := by
  have ⟨hp, hl⟩ := findClose_spec _ ci len hfc
  have h0 : nl stem = 0 := by decide
  rw [h0, List.take_take, Nat.min_eq_left hl]
  exact eqFold_nl _ _ hp h0

theorem wrapSegs_script (fuel : Nat) (s : List B) : Script (wrapSegs fuel s) s (dstOf (wrapSegs fuel s)) := by
  fun_induction wrapSegs fuel s
  case case1 | case2 => exact (Script.whole _).withDstOf
  case case3 => exact (Script.keepTake _ (.whole _)).withDstOf
  case case4 ih => exact (Script.keepTake _ (.keepTake _ ih)).withDstOf
  case case5 => exact (Script.keepTake _ (.keepTake _ (.whole _))).withDstOf
  -- an mj-text with content; `idx`, `e`: offset and length of the start tag, `ci`, `len`: of the end tag behind it
  case case6 fuel s idx _ e _ _ _ ci len hfc ih =>
    have h1 := (ih.keep ((((s.drop idx).drop e).drop ci |>.take len).drop stem.length)).repl (stem_nl hfc)
    have hu : ∀ (x : List B) (k n : Nat), (x.take n).take k ++ ((x.take n).drop k ++ x.drop n) = x := fun x k n => by
      rw [← List.append_assoc, List.take_append_drop, List.take_append_drop]
    rw [hu] at h1
    have h1 : Script _ (((s.drop idx).drop e).drop ci) _ := h1
    exact (Script.keepTake _ (.keepTake _ (.replTake _ (wrapInner_nl _).symm h1))).withDstOf

theorem wrapSegs_src : ∀ (fuel : Nat) (s : List B), srcOf (wrapSegs fuel s) = s :=
  fun fuel s => (wrapSegs_script fuel s).src

/-- **`wrapMJTextContent` moves no line** -/
theorem wrapSegs_ok : ∀ (fuel : Nat) (s : List B), LineOk (wrapSegs fuel s) :=
  fun fuel s => (wrapSegs_script fuel s).ok

/-- the same place through every `replaceInMarkup` step -/
def stepsRel : List (List B × List B) → List B → Nat → Nat → Prop
  | [], _, i, k => i = k
  | st :: r, s, i, k => ∃ j, Rel (replSegsM st.1 st.2 s) i j ∧ stepsRel r (replaceAllM st.1 st.2 s) j k

theorem stepsRel_lines : ∀ (steps : List (List B × List B)) (s : List B) (i k : Nat),
    (∀ st ∈ steps, nl st.1 = nl st.2) → stepsRel steps s i k →
    nl (s.take i) = nl ((steps.foldl (fun acc st => replaceAllM st.1 st.2 acc) s).take k)
  | [], s, i, _, _, rfl => rfl
  | st :: r, s, i, k, hs, h => by
    obtain ⟨j, h1, h2⟩ := h
    rw [(replSegsM_script st.1 st.2 (hs st List.mem_cons_self) s).lines h1, List.foldl_cons]
    exact stepsRel_lines r _ j k (fun x hx => hs x (List.mem_cons_of_mem _ hx)) h2

theorem steps_no_lf : ∀ st ∈ Gomjml.Gen.Parser.entityStepsB, nl st.1 = nl st.2 := by decide

/-- `ParseMJML` up to the XML decoder (parser.go:150) -/
def preprocess (s : List B) : List B := wrap (entities (strip s))

/-- offset `i` of the stripped text and `k` of the decoder's text are the same place -/
def PipeRel (s : List B) (i k : Nat) : Prop :=
  ∃ j1 j2, Rel (escSegs entTable false 0 0 0 (strip s)) i j1 ∧
    stepsRel Gomjml.Gen.Parser.entityStepsB (escapeAmp (strip s)) j1 j2 ∧
    Rel (wrapSegs ((entities (strip s)).length + 1) (entities (strip s))) j2 k

theorem pipe_lines (s : List B) (i k : Nat) (h : PipeRel s i k) : nl ((strip s).take i) = nl ((preprocess s).take k) := by
  obtain ⟨j1, j2, h1, h2, h3⟩ := h
  exact ((escSegs_script entTable (strip s) false 0 0 0).lines h1).trans
    ((stepsRel_lines _ _ j1 j2 steps_no_lf h2).trans ((wrapSegs_script _ _).lines h3))

end Gomjml.Lines
