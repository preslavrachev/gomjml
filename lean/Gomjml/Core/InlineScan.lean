import Gomjml.Core.InlineTagProofs
/-! `applyInlineStylesToHTML`: everything but the start tags is copied, each start tag goes through `InlineTag.inlineTag`.  Tied to the implementation by running both on the same fragments (`inlscan`). -/
namespace Gomjml.InlineScan
open Gomjml.Amp Gomjml.InlineTag

inductive Seg
  | text (b : List B)      -- character data (also what is left when a `<` has no matching `>`)
  | other (b : List B)     -- comment, end tag, `<!…>`, `<?…>`
  | start (b : List B)     -- a start tag, from `<` to the first `>` outside quotes
deriving Repr, DecidableEq

def Seg.bytes : Seg → List B
  | .text b => b | .other b => b | .start b => b

/-- `findTagEnd`: up to and including the first `>` outside quotes; `q` = the open quote (`"` or `'`), 0 outside -/
def splitTag : B → List B → Option (List B × List B)
  | _, [] => none
  | q, b :: r =>
    if q != 0 then
      (splitTag (if b == q then 0 else q) r).map (fun (p : List B × List B) => (b :: p.1, p.2))
    else if b == dq || b == sq then (splitTag b r).map (fun (p : List B × List B) => (b :: p.1, p.2))
    else if b == gt then some ([b], r)
    else (splitTag 0 r).map (fun (p : List B × List B) => (b :: p.1, p.2))

def arrow : List B := [45, 45, 62]
/-- up to and including the first `-->` -/
def splitArrow : List B → Option (List B × List B)
  | [] => none
  | b :: r => if arrow.isPrefixOf (b :: r) then some (arrow, (b :: r).drop 3)
              else (splitArrow r).map (fun (p : List B × List B) => (b :: p.1, p.2))

def cOpen : List B := [60, 33, 45, 45]

/-- the loop of `applyInlineStylesToHTML`, one `<` per round of fuel -/
def segments : Nat → List B → List Seg
  | 0, s => if s == [] then [] else [.text s]
  | fuel + 1, s =>
    let txt := s.takeWhile (· != lt)
    let pre := if txt == [] then [] else [Seg.text txt]
    match s.dropWhile (· != lt) with
    | [] => pre
    | l :: r =>
      if r == [] then pre ++ [.text [l]]
      else if cOpen.isPrefixOf (l :: r) then
        match splitArrow ((l :: r).drop 4) with
        | none => pre ++ [.text (l :: r)]
        | some (c, rest) => pre ++ [.other (cOpen ++ c)] ++ segments fuel rest
      else
        match splitTag 0 r with
        | none => pre ++ [.text (l :: r)]
        | some (c, rest) =>
          let isOther := r.head? == some 47 || r.head? == some 33 || r.head? == some 63
          pre ++ [if isOther then .other (l :: c) else .start (l :: c)] ++ segments fuel rest

def emit (inl : List B → List B) : Seg → List B
  | .start t => inlineTag inl t
  | s => s.bytes

/-- `applyInlineStylesToHTML` -/
def scan (inl : List B → List B) (s : List B) : List B := (segments (s.length + 1) s).flatMap (emit inl)

theorem splitTag_split (q : B) (r c rest : List B) (h : splitTag q r = some (c, rest)) : r = c ++ rest := by
  fun_induction splitTag q r generalizing c rest with
  | case1 => nomatch h
  | case2 _ b _ _ ih => exact map_split (pre := [b]) ih h    -- in quotes
  | case3 _ b _ _ _ ih => exact map_split (pre := [b]) ih h  -- a quote opens
  | case4 => cases h; rfl
  | case5 _ b _ _ _ _ ih => exact map_split (pre := [b]) ih h

theorem splitArrow_split (s c rest : List B) (h : splitArrow s = some (c, rest)) : s = c ++ rest := by
  fun_induction splitArrow s generalizing c rest with
  | case1 => nomatch h
  | case2 b r hp =>
    cases h
    exact (prefix_split _ _ hp).symm
  | case3 b r _ ih => exact map_split (pre := [b]) ih h

theorem optText_bytes (t : List B) : (if t == [] then ([] : List Seg) else [Seg.text t]).flatMap Seg.bytes = t := by
  split
  · rename_i h; exact (beq_iff_eq.mp h).symm
  · exact List.append_nil t

theorem optText_append_bytes {t d s : List B} (hs : t ++ d = s) (Y : List Seg) (h : Y.flatMap Seg.bytes = d) :
    ((if t == [] then [] else [Seg.text t]) ++ Y).flatMap Seg.bytes = s := by
  rw [List.flatMap_append, optText_bytes, h, hs]

theorem optText_seg_append_bytes {t d s : List B} (hs : t ++ d = s) (x : Seg) (Y : List Seg) (rest : List B) (hY : Y.flatMap Seg.bytes = rest)
    (h : x.bytes ++ rest = d) : ((if t == [] then [] else [Seg.text t]) ++ [x] ++ Y).flatMap Seg.bytes = s := by
  rw [List.append_assoc]
  exact optText_append_bytes hs _ (by rw [List.flatMap_append, hY, List.flatMap_cons, List.flatMap_nil, List.append_nil, h])

theorem segments_bytes (fuel : Nat) (s : List B) : (segments fuel s).flatMap Seg.bytes = s := by
  have cut := @List.takeWhile_append_dropWhile B (· != lt)
  -- `hx`: `dropWhile` leaves `l :: r`; `hsa`, `hst`: a split
  fun_induction segments fuel s with
  | case1 s h => exact (beq_iff_eq.mp h).symm    -- fuel out
  | case2 s h => exact List.append_nil s
  | case3 _ _ _ _ hx =>                          -- no `<`
    have := optText_append_bytes cut [] hx.symm
    rwa [List.append_nil] at this
  | case4 _ _ _ _ _ _ hx hr =>                   -- `<` is the last byte
    cases beq_iff_eq.mp hr
    exact optText_append_bytes cut _ hx.symm
  -- a comment or tag without end
  | case5 _ _ _ _ _ _ hx | case7 _ _ _ _ _ _ hx => exact optText_append_bytes cut _ ((List.append_nil _).trans hx.symm)
  | case6 _ _ _ _ _ _ hx _ hco c rest hsa ih =>    -- a comment
    refine optText_seg_append_bytes cut _ _ rest ih ?_
    rw [hx, Seg.bytes, List.append_assoc, ← splitArrow_split _ c rest hsa]
    exact prefix_split _ _ hco
  | case8 _ _ _ _ l r hx _ _ c rest hst _ ih =>    -- a tag
    refine optText_seg_append_bytes cut _ _ rest ih ?_
    rw [hx]
    split <;> exact congrArg (l :: ·) (splitTag_split 0 r c rest hst).symm

theorem inlineTag_id (inl : List B → List B) (h : ∀ c, inl c = []) (tag : List B) : inlineTag inl tag = tag := by
  unfold inlineTag
  split
  · rfl          -- does not parse
  · split
    · rfl        -- no attributes
    · split
      · rfl      -- no class attribute
      · simp only [h]; rfl    -- no declarations for it

theorem scan_id (inl : List B → List B) (h : ∀ c, inl c = []) (s : List B) : scan inl s = s := by
  have : emit inl = Seg.bytes := funext fun seg => by
    cases seg
    case start t => exact inlineTag_id inl h t
    all_goals rfl
  rw [scan, this]
  exact segments_bytes _ s

end Gomjml.InlineScan
