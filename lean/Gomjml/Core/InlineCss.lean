import Gomjml.Core.Amp
import Gomjml.Core.Util
/-! Byte-exact model of `mjml/inline_styles.go`: from the text of the `<mj-style inline="inline">` blocks to the table
    "class name ↦ declarations" the renderer inlines, and its specification: the declarations of a class are the declarations
    of every rule that names the class as a lone selector, once per naming, in source order. -/
namespace Gomjml.InlineCss
open Gomjml.Amp

/-! ### `strings.TrimSpace` on UTF-8 bytes: ASCII white space and the Unicode `White_Space` characters -/

/-- length of the white-space character at the head of `s` (0 if there is none) -/
def spaceLen : List B → Nat
  | 9 :: _ | 10 :: _ | 11 :: _ | 12 :: _ | 13 :: _ | 32 :: _ => 1
  | 0xC2 :: 0x85 :: _ | 0xC2 :: 0xA0 :: _ => 2
  | 0xE1 :: 0x9A :: 0x80 :: _ => 3
  | 0xE2 :: 0x80 :: c :: _ => if (0x80 ≤ c && c ≤ 0x8A) || c == 0xA8 || c == 0xA9 || c == 0xAF then 3 else 0
  | 0xE2 :: 0x81 :: 0x9F :: _ => 3
  | 0xE3 :: 0x80 :: 0x80 :: _ => 3
  | _ => 0

/-- the same at the end of the text, given reversed -/
def spaceLenRev : List B → Nat
  | 9 :: _ | 10 :: _ | 11 :: _ | 12 :: _ | 13 :: _ | 32 :: _ => 1
  | 0x85 :: 0xC2 :: _ | 0xA0 :: 0xC2 :: _ => 2
  | 0x80 :: 0x9A :: 0xE1 :: _ => 3
  | 0x9F :: 0x81 :: 0xE2 :: _ => 3
  | 0x80 :: 0x80 :: 0xE3 :: _ => 3
  | c :: 0x80 :: 0xE2 :: _ => if (0x80 ≤ c && c ≤ 0x8A) || c == 0xA8 || c == 0xA9 || c == 0xAF then 3 else 0
  | _ => 0

def trimLeftF : Nat → List B → List B
  | 0, s => s
  | fuel + 1, s => if spaceLen s = 0 then s else trimLeftF fuel (s.drop (spaceLen s))

def trimRightRevF : Nat → List B → List B
  | 0, s => s
  | fuel + 1, s => if spaceLenRev s = 0 then s else trimRightRevF fuel (s.drop (spaceLenRev s))

def trimSpace (s : List B) : List B :=
  let l := trimLeftF s.length s
  (trimRightRevF l.length l.reverse).reverse

theorem trimLeftF_id {n : Nat} {s : List B} (h : spaceLen s = 0) : trimLeftF n s = s := by
  cases n <;> simp only [trimLeftF, h, if_true]

theorem trimRightRevF_id {n : Nat} {s : List B} (h : spaceLenRev s = 0) : trimRightRevF n s = s := by
  cases n <;> simp only [trimRightRevF, h, if_true]

theorem trimSpace_id (s : List B) (h1 : spaceLen s = 0) (h2 : spaceLenRev s.reverse = 0) : trimSpace s = s := by
  unfold trimSpace
  simp only [trimLeftF_id h1, trimRightRevF_id h2, List.reverse_reverse]

/-! ### `strings.Split` on one byte, `strings.Index` of one byte -/

def splitOn (sep : B) : List B → List (List B)
  | [] => [[]]
  | b :: r =>
    if b == sep then [] :: splitOn sep r
    else match splitOn sep r with
      | [] => [[b]]          -- unreachable
      | h :: t => (b :: h) :: t

def indexOf (c : B) : List B → Option Nat
  | [] => none
  | b :: r => if b == c then some 0 else (indexOf c r).map (· + 1)

structure Decl where
  prop : List B
  val : List B
deriving DecidableEq, Repr

structure Rule where
  sels : List (List B)
  decls : List Decl
deriving Repr

/-- `parseInlineSelectors` -/
def parseSelectors (part : List B) : List (List B) :=
  if part = [] then [] else ((splitOn 44 part).map trimSpace).filter (· ≠ [])

/-- `parseInlineDeclarations` -/
def parseDecls (part : List B) : List Decl :=
  (splitOn 59 part).filterMap fun p =>
    let t := trimSpace p
    if t = [] then none else
    match indexOf 58 t with
    | none => none
    | some k =>
      let pr := trimSpace (t.take k)
      let v := trimSpace (t.drop (k + 1))
      if pr = [] || v = [] then none else some ⟨pr, v⟩

/-- the loop of `parseInlineCSSRules` over the (already trimmed) text -/
def parseRulesF : Nat → List B → List Rule
  | 0, _ => []
  | fuel + 1, text =>
    if text = [] then [] else
    match indexOf 123 text with
    | none => []
    | some st =>
      let selPart := trimSpace (text.take st)
      let rest := text.drop (st + 1)
      let (declPart, rest') := match indexOf 125 rest with
        | none => (rest, [])
        | some e => (rest.take e, rest.drop (e + 1))
      let sels := parseSelectors selPart
      let ds := parseDecls declPart
      if sels = [] || ds = [] then parseRulesF fuel rest' else ⟨sels, ds⟩ :: parseRulesF fuel rest'

def parseRules (css : List B) : List Rule :=
  let t := trimSpace css
  parseRulesF (t.length + 1) t

/-- the characters after which a selector is more than a lone class: ` \t\n\r.#:>+~[*,` -/
def combinators : List B := [32, 9, 10, 13, 46, 35, 58, 62, 43, 126, 91, 42, 44]

/-- `extractInlineClass` -/
def extractClass (sel : List B) : Option (List B) :=
  match trimSpace sel with
  | 46 :: name => if name = [] || name.any (combinators.contains ·) then none else some name
  | _ => none

/-! ### the table: an association list with Go's `m[k] = append(m[k], xs...)` -/

abbrev Table := List (List B × List Decl)

def Table.get (t : Table) (c : List B) : List Decl :=
  match t with
  | [] => []
  | (k, v) :: r => if k = c then v else Table.get r c

def Table.app (t : Table) (c : List B) (ds : List Decl) : Table :=
  match t with
  | [] => [(c, ds)]
  | (k, v) :: r => if k = c then (k, v ++ ds) :: r else (k, v) :: Table.app r c ds

/-- one rule: every selector that is a lone class gets the rule's declarations appended -/
def addRule (t : Table) (r : Rule) : Table :=
  r.sels.foldl (fun acc s => match extractClass s with | some c => acc.app c r.decls | none => acc) t

/-- `collectInlineClassStyles` over the texts of the inline blocks, in document order -/
def collect (texts : List (List B)) : Table := (texts.flatMap parseRules).foldl addRule []

/-- what a class gets from one rule: the rule's declarations once per selector that names the class alone -/
def fromRule (c : List B) (r : Rule) : List Decl :=
  r.sels.flatMap fun s => if extractClass s = some c then r.decls else []

/-- **the Spec**: the declarations of every rule naming the class, in source order -/
def spec (texts : List (List B)) (c : List B) : List Decl := (texts.flatMap parseRules).flatMap (fromRule c)

theorem get_app (t : Table) (c d : List B) (ds : List Decl) : (t.app d ds).get c = t.get c ++ if d = c then ds else [] := by
  fun_induction Table.app t d ds with
  | case1 => simp only [Table.get, List.nil_append]
  | case2 v r => by_cases hc : d = c <;> simp only [Table.get, hc, if_true, if_false, List.append_nil]    -- first key: `d`
  | case3 k v r hk ih =>    -- first key: `k ≠ d`
    by_cases hc : k = c
    · have hd : ¬ d = c := fun e => hk (hc.trans e.symm)
      simp only [Table.get, hc, if_true, hd, if_false, List.append_nil]
    · simp only [Table.get, hc, if_false, ih]

theorem addRule_get (t : Table) (r : Rule) (c : List B) : (addRule t r).get c = t.get c ++ fromRule c r :=
  foldl_append_obs (·.get c) _ _ (fun t s => by
    cases extractClass s with
    | none => simp only [reduceCtorEq, if_false, List.append_nil]
    | some c' => simp only [get_app, Option.some.injEq]) r.sels t

theorem foldl_addRule_get (c : List B) (rs : List Rule) (t : Table) :
    (rs.foldl addRule t).get c = t.get c ++ rs.flatMap (fromRule c) :=
  foldl_append_obs (·.get c) addRule (fromRule c) (addRule_get · · c) rs t

/-- **the table is the Spec** -/
theorem collect_spec (texts : List (List B)) (c : List B) : (collect texts).get c = spec texts c := by
  unfold collect spec
  rw [foldl_addRule_get]
  exact List.nil_append _

/-- only a lone class is inlined: a dot, a non-empty name, no combinator -/
theorem extractClass_lone (sel name : List B) (h : extractClass sel = some name) :
    trimSpace sel = 46 :: name ∧ name ≠ [] ∧ ∀ b ∈ name, b ∉ combinators := by
  unfold extractClass at h
  split at h
  · rename_i nm heq
    -- `some name` stands behind `name = [] || name.any …`
    split at h
    · cases h
    · rename_i hc
      cases h
      rw [Bool.or_eq_true, not_or, decide_eq_true_eq] at hc
      exact ⟨heq, hc.1, fun b hb hin => hc.2 (List.any_eq_true.mpr ⟨b, hb, List.contains_iff_mem.mpr hin⟩)⟩
  · cases h

/-- every kept declaration has a property and a value -/
theorem parseDecls_nonempty (part : List B) : ∀ d ∈ parseDecls part, d.prop ≠ [] ∧ d.val ≠ [] := by
  intro d hd
  obtain ⟨p, _, hp⟩ := List.mem_filterMap.mp hd
  -- `some` stands behind the test `pr = [] || v = []`
  dsimp only at hp
  split at hp
  · cases hp
  · split at hp
    · cases hp
    · split at hp
      · cases hp
      · rename_i hne
        cases hp
        simpa using hne    -- `not_or` on the test

/-- every entry of the table is a declaration of a parsed rule -/
theorem spec_mem (texts : List (List B)) (c : List B) : ∀ d ∈ spec texts c, ∃ t ∈ texts, ∃ r ∈ parseRules t, d ∈ r.decls := by
  intro d hd
  simp only [spec, fromRule, List.mem_flatMap] at hd
  obtain ⟨r, ⟨t, ht, hrt⟩, s, _, hs⟩ := hd
  split at hs
  · exact ⟨t, ht, r, hrt, hs⟩
  · cases hs

end Gomjml.InlineCss
