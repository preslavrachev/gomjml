namespace Gomjml.Merge
/-! The body loop of `body.go` writes MJML's merge of the blocks rendered alone, for every sequence of well-formed blocks. -/

/-- `co` = `<!--[if mso | IE]>`, `cc` = the `<![endif]-->` that closes it (the `<!--<![endif]-->` of a not-Outlook block is
    not one: `body.go`), `t n` = anything else -/
inductive Tok | co | cc | t (n : Nat)
deriving DecidableEq, Repr

open Tok

/-- MJML's mergeOutlookConditionnals: delete each adjacent `cc co`, in a single pass: `cc cc co co ↦ cc co`, so
    `Normal (merge xs)` and idempotence are false -/
def merge : List Tok → List Tok
  | cc :: co :: r => merge r
  | x :: r => x :: merge r
  | [] => []

def Normal : List Tok → Prop
  | cc :: co :: _ => False
  | _ :: r => Normal r
  | [] => True

structure Blk where
  body : List Tok          -- without the `co` / `cc` that `startsCO` / `endsCC` stand for
  startsCO : Bool
  endsCC : Bool
  chain : Bool             -- non-full-width plain section at body level: may leave the comment open
  consumes : Bool          -- non-full-width section / wrapper: continues an open comment by omitting its leading `co`
  blank : Bool             -- writes nothing at all (blank mj-raw)

def Blk.solo (b : Blk) : List Tok :=
  (if b.startsCO then [co] else []) ++ b.body ++ (if b.endsCC then [cc] else [])

/-- what the code writes for `b`, and the flag it hands on -/
def Blk.emit (b : Blk) (pendingIn leave : Bool) : List Tok × Bool :=
  let dropHead := pendingIn && b.consumes
  ( (if b.startsCO && !dropHead then [co] else []) ++ b.body ++ (if b.endsCC && !leave then [cc] else []),
    if leave then true else if b.consumes then false else pendingIn )   -- under `merge_outs`'s invariant only ever `false`

def nextCons : List Blk → Bool
  | c :: _ => c.consumes
  | [] => false

/-- `body.go`: leave = chain ∧ the next sibling continues -/
def outs : List Blk → Bool → List (List Tok)
  | [], _ => []
  | b :: rest, p => (b.emit p (b.chain && nextCons rest)).1 :: outs rest (b.emit p (b.chain && nextCons rest)).2

/-- the hold-back writer: marker pair at a block boundary dropped, empty outputs skipped -/
def join : List Tok → List (List Tok) → List Tok
  | held, [] => held
  | held, out :: rest =>
    if out = [] then join held rest
    else if held.getLast? = some cc ∧ out.head? = some co then held.dropLast ++ join out.tail rest
    else held ++ join out rest

def bodyLoop (bs : List Blk) : List Tok := join [] (outs bs false)

/-- facts about the code's block kinds -/
structure Blk.WF (b : Blk) : Prop where
  chain_ends : b.chain = true → b.endsCC = true
  cons_starts : b.consumes = true → b.startsCO = true
  blank_iff : b.blank = true ↔ b.body = []
  blank_flags : b.blank = true → b.startsCO = false ∧ b.endsCC = false ∧ b.chain = false ∧ b.consumes = false
  body_no_co_head : b.body.head? ≠ some co      -- after our own `co` comes markup, not another marker
  body_no_cc_last : b.body.getLast? ≠ some cc
  body_normal : Normal b.body

theorem merge_cons (x : Tok) (r : List Tok) (h : ¬(x = cc ∧ r.head? = some co)) : merge (x :: r) = x :: merge r := by
  match x, r, h with
  | cc, co :: _, h => exact absurd ⟨rfl, rfl⟩ h
  | cc, [], _ | cc, cc :: _, _ | cc, t _ :: _, _ | co, _, _ | t _, _, _ => rfl   -- every other shape

theorem normal_cons (x : Tok) (r : List Tok) : Normal (x :: r) ↔ ¬(x = cc ∧ r.head? = some co) ∧ Normal r := by
  match x, r with
  | cc, co :: _ | cc, [] | cc, cc :: _ | cc, t _ :: _ | co, _ | t _, _ => simp [Normal]

theorem merge_normal (xs : List Tok) (h : Normal xs) : merge xs = xs := by
  induction xs with
  | nil => rfl
  | cons x r ih => rw [normal_cons] at h; rw [merge_cons x r h.1, ih h.2]

theorem merge_append : ∀ (xs ys : List Tok), ¬(xs.getLast? = some cc ∧ ys.head? = some co) →
    merge (xs ++ ys) = merge xs ++ merge ys
  | [], _, _ => rfl
  | [x], ys, h => by
    rw [List.singleton_append, merge_cons x ys (by simpa using h), merge_cons x [] (by simp)]; rfl
  | x :: y :: r, ys, h => by
    rw [List.getLast?_cons_cons] at h
    by_cases hxy : x = cc ∧ y = co
    · obtain ⟨rfl, rfl⟩ := hxy
      cases r with
      | nil => rfl
      | cons a r => exact merge_append (a :: r) ys (by rwa [List.getLast?_cons_cons] at h)
    · have hx : ¬(x = cc ∧ (y :: r).head? = some co) := by simpa using hxy
      rw [List.cons_append, merge_cons x (y :: r) hx, merge_cons x (y :: r ++ ys) hx, merge_append (y :: r) ys h]; rfl

theorem merge_pair (xs ys : List Tok) : merge (xs ++ cc :: co :: ys) = merge xs ++ merge ys :=
  merge_append xs _ (by simp)

theorem normal_append (xs ys : List Tok) :
    Normal (xs ++ ys) ↔ Normal xs ∧ Normal ys ∧ ¬(xs.getLast? = some cc ∧ ys.head? = some co) := by
  induction xs with
  | nil => simp [Normal]
  | cons x r ih =>
    rw [List.cons_append, normal_cons, normal_cons, ih]
    cases r with
    | nil => simp [Normal]; exact and_comm
    | cons a r => simp only [List.cons_append, List.head?_cons, List.getLast?_cons_cons, and_assoc]

theorem join_eq_merge : ∀ (outs : List (List Tok)) (held : List Tok), Normal held → (∀ o ∈ outs, Normal o) →
    join held outs = merge (held ++ outs.flatten)
  | [], held, hn, _ => by simp [join, merge_normal held hn]
  | out :: rest, held, hn, ho => by
    have hon := ho out (List.mem_cons_self ..)
    have hr : ∀ o ∈ rest, Normal o := fun o h => ho o (List.mem_cons_of_mem _ h)
    rw [join, List.flatten_cons]
    split
    · next he => simp only [he, List.nil_append]; exact join_eq_merge rest held hn hr
    · next he =>
      split
      · next hm =>
        -- the writer drops the pair, and so does `merge`
        obtain ⟨h', rfl⟩ := List.getLast?_eq_some_iff.mp hm.1
        obtain ⟨o', rfl⟩ := List.head?_eq_some_iff.mp hm.2
        rw [List.dropLast_concat, List.tail_cons, join_eq_merge rest o' ((normal_cons ..).mp hon).2 hr,
          List.append_assoc, List.singleton_append, List.cons_append, merge_pair,
          merge_normal h' ((normal_append ..).mp hn).1]
      · next hm =>
        rw [join_eq_merge rest out hon hr, merge_append held, merge_normal held hn]
        cases out with
        | nil => exact absurd rfl he
        | cons a o => exact hm

/-- what `emit` and `solo` have in common once the `cc` a block still owes is put back (`emit_shape`) -/
def Blk.core (b : Blk) (keepHead : Bool) : List Tok := (if b.startsCO && keepHead then [co] else []) ++ b.body

theorem body_ne (b : Blk) (hw : b.WF) (hb : b.blank = false) : b.body ≠ [] := by
  intro h; have := hw.blank_iff.mpr h; simp [hb] at this

theorem core_last (b : Blk) (hw : b.WF) (hb : b.blank = false) (k : Bool) : (b.core k).getLast? ≠ some cc := by
  unfold Blk.core
  rw [List.getLast?_append]
  cases hbl : b.body.getLast? with
  | none => exact absurd (List.getLast?_eq_none_iff.mp hbl) (body_ne b hw hb)
  | some x => rw [Option.some_or]; exact hbl ▸ hw.body_no_cc_last

theorem emit_shape (b : Blk) (p leave : Bool) (hl : leave = true → b.endsCC = true) :
    (b.emit p leave).1 ++ (if leave then [cc] else []) = b.core (!(p && b.consumes)) ++ (if b.endsCC then [cc] else []) := by
  unfold Blk.emit Blk.core
  cases hlv : leave
  · simp
  · simp [hl hlv]

theorem emit_snd (b : Blk) (p leave : Bool) (hp : p = true → b.consumes = true) : (b.emit p leave).2 = leave := by
  cases leave
  · cases p
    · simp [Blk.emit]
    · simp [Blk.emit, hp rfl]
  · rfl

theorem emit_normal (b : Blk) (hn : Normal b.body) (p leave : Bool) : Normal (b.emit p leave).1 := by
  unfold Blk.emit
  refine (normal_append ..).mpr ⟨(normal_append ..).mpr ⟨?_, hn, ?_⟩, ?_, ?_⟩
  · split <;> simp [Normal]
  · split <;> simp                                       -- `[co]` or `[]` does not end in `cc`
  · split <;> simp [Normal]
  · exact fun ⟨_, h⟩ => by split at h <;> simp at h       -- `[cc]` or `[]` does not begin with `co`

theorem outs_normal : ∀ (bs : List Blk) (p : Bool), (∀ b ∈ bs, Normal b.body) → ∀ o ∈ outs bs p, Normal o
  | [], _, _, o, h => by simp [outs] at h
  | b :: rest, p, hw, o, h => by
    rcases List.mem_cons.mp h with rfl | h
    · exact emit_normal b (hw b (List.mem_cons_self ..)) ..
    · exact outs_normal rest _ (fun x hx => hw x (List.mem_cons_of_mem _ hx)) o h

/-- the markers the code leaves out are pairs that `merge` deletes; `xs` = what was written before -/
theorem merge_outs : ∀ (bs : List Blk) (p : Bool) (xs : List Tok), (∀ b ∈ bs, b.WF) → (p = true → nextCons bs = true) →
    merge (xs ++ (outs bs p).flatten) = merge (xs ++ (if p then [cc] else []) ++ bs.flatMap Blk.solo)
  | [], p, xs, _, hp => by
    cases p
    · simp [outs]
    · simp [nextCons] at hp
  | b :: rest, p, xs, hw, hp => by
    have hwb : b.WF := hw b (List.mem_cons_self ..)
    -- one step of `outs`
    rw [outs, emit_snd b p _ hp, List.flatten_cons, List.flatMap_cons]
    -- the claim for `rest`
    rw [← List.append_assoc,
      merge_outs rest _ _ (fun x hx => hw x (List.mem_cons_of_mem _ hx)) (fun h => (Bool.and_eq_true_iff.mp h).2)]
    -- output and owed `cc` = core and own `cc`
    rw [List.append_assoc xs, emit_shape b p _ fun h => hwb.chain_ends (Bool.and_eq_true_iff.mp h).1]
    cases p
    · simp [Blk.core, Blk.solo]      -- that is `solo`
    · -- the comment is open: this block's `co` is left out
      have hc : b.consumes = true := hp rfl         -- `nextCons (b :: _)` is `b.consumes`
      have hbl : b.blank = false := by
        cases h : b.blank
        · rfl
        · rw [(hwb.blank_flags h).2.2.2] at hc; cases hc
      obtain ⟨a, r, hbody⟩ := List.exists_cons_of_ne_nil (body_ne b hwb hbl)
      have ha : a ≠ co := by simpa [hbody] using hwb.body_no_co_head
      -- right = left with `cc :: co ::` before `a`; the left splits after `xs` as `a ≠ co` (`body_no_co_head`)
      simp only [Blk.core, Blk.solo, hc, hwb.cons_starts hc, hbody, Bool.and_self, Bool.not_true, Bool.and_false,
        Bool.false_eq_true, if_false, if_true, List.nil_append, List.append_assoc, List.cons_append]
      rw [merge_pair, merge_append xs _ (by simpa using fun _ => ha)]

theorem C01_lifting (bs : List Blk) (hw : ∀ b ∈ bs, b.WF) : bodyLoop bs = merge (bs.flatMap Blk.solo) := by
  rw [bodyLoop, join_eq_merge _ [] trivial (outs_normal bs false fun b h => (hw b h).body_normal), merge_outs bs false [] hw (by simp)]
  rfl

end Gomjml.Merge
