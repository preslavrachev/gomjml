import Gomjml.Core.Util
namespace Gomjml.Frame
/-! A frame theorem for a tiny shared-memory calculus (C07 / C16).  Threads are lists of actions; a *region* `R` is a
    predicate on locations (the shared state for C07, the AST for C16).  If no action of any thread writes into `R`, then
    under every schedule `R` keeps its contents and every value read from `R` is the initial one.  The calculus has no
    notion of output; no theorem compares two runs. -/

abbrev Loc := Nat
abbrev Val := Nat

inductive Act
  | read (l : Loc)
  | write (l : Loc) (v : Val)
  | localStep
deriving Repr

structure Sys where
  mem : Loc → Val
  progs : Nat → List Act                 -- remaining program of each thread
  trace : Nat → List (Loc × Val)         -- what each thread has read (most recent first)

def stepT (s : Sys) (t : Nat) : Sys :=
  match s.progs t with
  | [] => s
  | a :: r =>
    let progs' := fun u => if u = t then r else s.progs u
    match a with
    | .read l => { s with progs := progs', trace := fun u => if u = t then (l, s.mem l) :: s.trace u else s.trace u }
    | .write l v => { s with progs := progs', mem := fun x => if x = l then v else s.mem x }
    | .localStep => { s with progs := progs' }

def run (s : Sys) : List Nat → Sys
  | [] => s
  | t :: σ => run (stepT s t) σ

/-- writes only outside `R` -/
def writesOutside (R : Loc → Prop) (p : List Act) : Prop := ∀ l v, Act.write l v ∈ p → ¬ R l

theorem stepT_frame (R : Loc → Prop) (m0 : Loc → Val) (s : Sys) (t : Nat) (hw : ∀ t, writesOutside R (s.progs t))
    (hm : ∀ l, R l → s.mem l = m0 l) (ht : ∀ t l v, (l, v) ∈ s.trace t → R l → v = m0 l) :
    (∀ u, writesOutside R ((stepT s t).progs u)) ∧ (∀ l, R l → (stepT s t).mem l = m0 l) ∧
    (∀ u l v, (l, v) ∈ (stepT s t).trace u → R l → v = m0 l) := by
  unfold stepT
  cases hp : s.progs t with
  | nil => exact ⟨hw, hm, ht⟩
  | cons a r =>
    have hprogs : ∀ u, writesOutside R (if u = t then r else s.progs u) :=
      forall_update (P := fun _ p => writesOutside R p) hw fun l v hin => hw t l v (hp ▸ List.mem_cons_of_mem _ hin)
    cases a with
    | localStep => exact ⟨hprogs, hm, ht⟩
    | write l' v' =>
      exact ⟨hprogs, forall_update (P := fun l v => R l → v = m0 l) hm fun hl =>
        absurd hl (hw t l' v' (hp ▸ List.mem_cons_self)), ht⟩
    | read l' =>
      -- `t` reads what `hm` says
      exact ⟨hprogs, hm, forall_update (P := fun _ tr => ∀ l v, (l, v) ∈ tr → R l → v = m0 l) ht fun l v hin hl =>
        (List.mem_cons.1 hin).elim (fun e => by cases e; exact hm _ hl) (ht t l v · hl)⟩

theorem frame (R : Loc → Prop) (m0 : Loc → Val) :
    ∀ (σ : List Nat) (s : Sys),
      (∀ t, writesOutside R (s.progs t)) → (∀ l, R l → s.mem l = m0 l) →
      (∀ t l v, (l, v) ∈ s.trace t → R l → v = m0 l) →
      (∀ l, R l → (run s σ).mem l = m0 l) ∧ (∀ t l v, (l, v) ∈ (run s σ).trace t → R l → v = m0 l) := by
  intro σ
  induction σ with
  | nil => exact fun s _ hm ht => ⟨hm, ht⟩
  | cons t σ ih =>
    intro s hw hm ht
    obtain ⟨hw', hm', ht'⟩ := stepT_frame R m0 s t hw hm ht
    exact ih _ hw' hm' ht'

end Gomjml.Frame
