import Gomjml.Core.Cache
/-! # The AST cache under concurrency

Any number of compilations run at the same time (`parseAST` of `mjml/render.go`, step by step), each with its own document,
options and cache flag, interleaved with each other, with the passing of time, and with an **environment that may delete any
cache entry at any moment** — which over-approximates the background cleanup (whatever it sweeps, whenever, however often it
is stopped and restarted) and the delete-on-expired of other compilations.

Atomic steps of a cached compilation: `Load` the entry → compare `time.Now()` with its expiry (hit: return the stored tree) →
`Delete` the expired entry → join the single-flight for the key (become its leader, or wait for the registered leader) →
leader: parse → `Store` on success → publish the result and retire → waiters read the leader's result.  Joining and retiring
are atomic here; the finer steps of `singleflightDo` are modelled in `SingleFlight.lean` (no theorem connects the two machines).

Results: `Props.C13.C13_concurrent`, `C13_concurrent_store_sound`, `Props.C15.C15_waiter_gets_own_parse`. -/
namespace Gomjml.CacheConc
open Gomjml.Cache

abbrev Tid := Nat

inductive PC
  | start
  | loaded (e : Option Entry)            -- after `astCache.Load`
  | expired                              -- the loaded entry failed the `time.Now().Before(expires)` test; about to `Delete`
  | join                                 -- about to enter `singleflightDo`
  | leader                               -- registered as the leader for its key; about to call the parser
  | parsed (r : Except Err Ast)          -- parser returned; about to `Store` (on success)
  | publish (r : Except Err Ast)         -- stored; about to hand the result over and retire
  | waiting (l : Tid)                    -- found leader `l` registered for its key
  | done (out : Except Err Html)
deriving Repr

structure St where
  pc : Tid → PC
  store : CKey → Option Entry
  sf : CKey → Option Tid                 -- sfCalls: key ↦ registered leader
  res : Tid → Option (Except Err Ast)    -- the result published by leader t
  now : Int
  ttl : Int

/-- what each compilation was asked to do: constant per thread -/
structure Job where
  doc : Tid → Doc
  opt : Tid → Opt
  cached : Tid → Bool

def upd {β} (f : Nat → β) (a : Nat) (b : β) : Nat → β := fun x => if x = a then b else f x
theorem upd_apply {β} (f : Nat → β) (a : Nat) (b : β) (x : Nat) : upd f a b x = if x = a then b else f x := rfl

def out (w : World) (o : Opt) (r : Except Err Ast) : Except Err Html := r.map (fun a => w.rend a o)

inductive Ev
  | thread (t : Tid)                     -- one atomic step of compilation t
  | evict (k : CKey)                     -- the environment deletes the entry under k (sweeper, other deleters, anything)
  | advance (δ : Nat)                    -- time passes
  | setTTL (d : Int)                     -- the TTL changes, at any time, any number of times
deriving Repr

/-- one atomic step of thread `t`; `none` = not enabled -/
def stepT (w : World) (j : Job) (s : St) (t : Tid) : Option St :=
  let k := w.hash (j.doc t)
  match s.pc t with
  | .start =>
    if j.cached t then some { s with pc := upd s.pc t (.loaded (s.store k)) }
    else some { s with pc := upd s.pc t (.done (spec w (j.doc t) (j.opt t))) }
  | .loaded (some e) =>
    if s.now < e.expires then some { s with pc := upd s.pc t (.done (.ok (w.rend e.ast (j.opt t)))) }
    else some { s with pc := upd s.pc t .expired }
  | .loaded none => some { s with pc := upd s.pc t .join }
  | .expired => some { s with store := upd s.store k none, pc := upd s.pc t .join }
  | .join =>
    match s.sf k with
    | some l => some { s with pc := upd s.pc t (.waiting l) }
    | none => some { s with sf := upd s.sf k (some t), pc := upd s.pc t .leader }
  | .leader => some { s with pc := upd s.pc t (.parsed (w.parse (j.doc t))) }
  | .parsed (.ok a) => some { s with store := upd s.store k (some ⟨a, s.now + s.ttl, s.now, s.ttl⟩), pc := upd s.pc t (.publish (.ok a)) }
  | .parsed (.error e) => some { s with pc := upd s.pc t (.publish (.error e)) }
  | .publish r => some { s with res := upd s.res t (some r), sf := upd s.sf k none, pc := upd s.pc t (.done (out w (j.opt t) r)) }
  | .waiting l =>
    match s.res l with
    | some r => some { s with pc := upd s.pc t (.done (out w (j.opt t) r)) }
    | none => none
  | .done _ => none

def step (w : World) (j : Job) (s : St) : Ev → St
  | .thread t => (stepT w j s t).getD s
  | .evict k => { s with store := upd s.store k none }
  | .advance δ => { s with now := s.now + δ }
  | .setTTL d => { s with ttl := d }

def run (w : World) (j : Job) (s : St) : List Ev → St
  | [] => s
  | e :: r => run w j (step w j s e) r

def init (ttl : Int) : St :=
  { pc := fun _ => .start, store := fun _ => none, sf := fun _ => none, res := fun _ => none, now := 0, ttl := ttl }

/-- `loaded_sound`, `sf_key`, `wait_key` speak of keys; `hinj` turns them into documents -/
structure CCInv (w : World) (j : Job) (s : St) : Prop where
  store_sound : ∀ k e, s.store k = some e → ∃ d, w.hash d = k ∧ w.parse d = .ok e.ast
  loaded_sound : ∀ t e, s.pc t = .loaded (some e) → ∃ d, w.hash d = w.hash (j.doc t) ∧ w.parse d = .ok e.ast
  parsed_own : ∀ t r, (s.pc t = .parsed r ∨ s.pc t = .publish r) → r = w.parse (j.doc t)
  res_own : ∀ t r, s.res t = some r → r = w.parse (j.doc t)
  sf_key : ∀ k l, s.sf k = some l → w.hash (j.doc l) = k
  wait_key : ∀ t l, s.pc t = .waiting l → w.hash (j.doc l) = w.hash (j.doc t)
  done_spec : ∀ t o, s.pc t = .done o → o = spec w (j.doc t) (j.opt t)

theorem out_parse (w : World) (d : Doc) (o : Opt) : out w o (w.parse d) = spec w d o := rfl

section
variable {w : World} {j : Job} {s s' : St} {t : Tid}

/-- the four clauses of `CCInv` about `pc`, for one `t` at `p` -/
def PCok (w : World) (j : Job) (t : Tid) : PC → Prop
  | .loaded (some e) => ∃ d, w.hash d = w.hash (j.doc t) ∧ w.parse d = .ok e.ast
  | .parsed r | .publish r => r = w.parse (j.doc t)
  | .waiting l => w.hash (j.doc l) = w.hash (j.doc t)
  | .done o => o = spec w (j.doc t) (j.opt t)
  | _ => True

theorem CCInv.pc_ok (h : CCInv w j s) (t : Tid) : PCok w j t (s.pc t) := by
  cases hp : s.pc t with
  | loaded e => cases e with
    | none => trivial
    | some e => exact h.loaded_sound t e hp
  | parsed r => exact h.parsed_own t r (.inl hp)
  | publish r => exact h.parsed_own t r (.inr hp)
  | waiting l => exact h.wait_key t l hp
  | done o => exact h.done_spec t o hp
  | _ => trivial

theorem CCInv.of_pc_ok (hst : ∀ k e, s.store k = some e → ∃ d, w.hash d = k ∧ w.parse d = .ok e.ast)
    (hpc : ∀ t, PCok w j t (s.pc t)) (hres : ∀ t r, s.res t = some r → r = w.parse (j.doc t))
    (hsf : ∀ k l, s.sf k = some l → w.hash (j.doc l) = k) : CCInv w j s where
  store_sound := hst
  loaded_sound t e hp := by have := hpc t; rwa [hp] at this
  parsed_own t r hp := by have := hpc t; cases hp with | _ hp => rwa [hp] at this
  res_own := hres
  sf_key := hsf
  wait_key t l hp := by have := hpc t; rwa [hp] at this
  done_spec t o hp := by have := hpc t; rwa [hp] at this

theorem inv_init (w : World) (j : Job) (ttl : Int) : CCInv w j (init ttl) :=
  .of_pc_ok nofun (fun _ => trivial) nofun nofun

/-- a step that only moves `t`, to a point whose clause holds (`upd` unfolds to `forall_update`'s `ite`) -/
theorem CCInv.set_pc (h : CCInv w j s) {p : PC} (hp : PCok w j t p) : CCInv w j { s with pc := upd s.pc t p } :=
  .of_pc_ok h.store_sound (forall_update h.pc_ok hp) h.res_own h.sf_key

/-- `hinj`, second use (first: `hit_spec`) -/
theorem CCInv.wait_res (hinj : ∀ d d', w.hash d = w.hash d' → d = d') (h : CCInv w j s) {l : Tid} {r : Except Err Ast}
    (hw : s.pc t = .waiting l) (hr : s.res l = some r) : r = w.parse (j.doc t) := by
  rw [h.res_own l r hr, hinj _ _ (h.wait_key t l hw)]

theorem inv_stepT (hinj : ∀ d d', w.hash d = w.hash d' → d = d') (h : CCInv w j s) (hs : stepT w j s t = some s') : CCInv w j s' := by
  have hpc := h.pc_ok
  have ht := hpc t
  unfold stepT at hs
  simp only at hs  -- removes `let k`
  -- the bullets follow `stepT`'s `match` in order; `.loaded` and `.parsed` are split in two each
  split at hs
  · split at hs
    · -- cached: Load
      obtain rfl := Option.some.inj hs
      refine h.set_pc ?_
      cases hk : s.store (w.hash (j.doc t)) with
      | none => trivial
      | some e => exact h.store_sound _ e hk
    · -- uncached: the stateless compiler itself
      obtain rfl := Option.some.inj hs
      exact h.set_pc rfl
  · next e hp =>
    rw [hp] at ht
    split at hs
    · -- hit
      obtain rfl := Option.some.inj hs
      exact h.set_pc (hit_spec hinj _ ht)
    · -- past its expiry
      obtain rfl := Option.some.inj hs
      exact h.set_pc trivial
  · -- nothing loaded
    obtain rfl := Option.some.inj hs
    exact h.set_pc trivial
  · -- expired: Delete
    obtain rfl := Option.some.inj hs
    exact .of_pc_ok (some_update h.store_sound nofun) (forall_update hpc trivial) h.res_own h.sf_key
  · split at hs
    · -- a leader is registered: wait for it
      next l hl =>
      obtain rfl := Option.some.inj hs
      exact h.set_pc (h.sf_key _ l hl)
    · -- become the leader
      obtain rfl := Option.some.inj hs
      exact .of_pc_ok h.store_sound (forall_update hpc trivial) h.res_own
        (some_update h.sf_key fun l hl => by cases hl; rfl)
  · -- leader: parse
    obtain rfl := Option.some.inj hs
    exact h.set_pc rfl
  · -- parsed ok: Store
    next a hp =>
    rw [hp] at ht
    obtain rfl := Option.some.inj hs
    exact .of_pc_ok (some_update h.store_sound fun e he => Option.some.inj he ▸ ⟨j.doc t, rfl, ht.symm⟩)
      (forall_update hpc ht) h.res_own h.sf_key
  · -- parsed error: nothing is stored
    next e hp =>
    rw [hp] at ht
    obtain rfl := Option.some.inj hs
    exact h.set_pc ht
  · -- publish: hand over and retire
    next r hp =>
    rw [hp] at ht
    obtain rfl := Option.some.inj hs
    have hdone : out w (j.opt t) r = spec w (j.doc t) (j.opt t) := by rw [ht, out_parse]
    exact .of_pc_ok h.store_sound (forall_update hpc hdone)
      (some_update h.res_own fun r' hr => Option.some.inj hr ▸ ht) (some_update h.sf_key nofun)
  · -- waiting
    next l hp =>
    split at hs
    · next r hr =>
      obtain rfl := Option.some.inj hs
      have hdone : out w (j.opt t) r = spec w (j.doc t) (j.opt t) := by rw [h.wait_res hinj hp hr, out_parse]
      exact h.set_pc hdone
    · cases hs
  · cases hs

end


theorem inv_step (w : World) (j : Job) (hinj : ∀ d d', w.hash d = w.hash d' → d = d') (s : St) (e : Ev) (h : CCInv w j s) :
    CCInv w j (step w j s e) := by
  cases e with
  | thread t =>
    show CCInv w j ((stepT w j s t).getD s)
    cases hs : stepT w j s t with
    | none => exact h
    | some s' => exact inv_stepT hinj h hs
  | evict k => exact .of_pc_ok (some_update h.store_sound nofun) h.pc_ok h.res_own h.sf_key
  | advance _ | setTTL _ => exact .of_pc_ok h.store_sound h.pc_ok h.res_own h.sf_key

theorem inv_run (w : World) (j : Job) (hinj : ∀ d d', w.hash d = w.hash d' → d = d') :
    ∀ (σ : List Ev) (s : St), CCInv w j s → CCInv w j (run w j s σ) := by
  intro σ
  induction σ with
  | nil => intro s h; exact h
  | cons e r ih => intro s h; exact ih _ (inv_step w j hinj s e h)

theorem inv_reachable (w : World) (j : Job) (hinj : ∀ d d', w.hash d = w.hash d' → d = d') (ttl : Int) (σ : List Ev) :
    CCInv w j (run w j (init ttl) σ) :=
  inv_run w j hinj σ _ (inv_init w j ttl)

/-- the HTML a finished compilation returned (for stating examples) -/
def PC.doneOk : PC → Option Gomjml.Cache.Html
  | .done (.ok a) => some a
  | _ => none
/-- labels of the schedule replay (`Driver/CcP.lean`) -/
def PC.tag : PC → String
  | .start => "start" | .loaded (some _) => "loaded-some" | .loaded none => "loaded-none" | .expired => "expired" | .join => "join"
  | .leader => "leader" | .parsed (.ok _) => "parsed-ok" | .parsed (.error _) => "parsed-err" | .publish _ => "publish"
  | .waiting l => s!"waiting:{l}" | .done (.ok a) => s!"done:ok{a}" | .done (.error e) => s!"done:err{e}"
end Gomjml.CacheConc
