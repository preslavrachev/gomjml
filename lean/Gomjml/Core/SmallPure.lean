import Gomjml.Core.Amp
/-! Small pure helpers that several components go through.  Tied to the implementation by the correspondence runs `normcolor`,
    `dedup`, `fonttags` of `hx C05` through the packages' public API. -/
namespace Gomjml.SmallPure
open Gomjml.Amp

def isHex (b : B) : Bool := (b ≥ 48 && b ≤ 57) || (b ≥ 97 && b ≤ 102) || (b ≥ 65 && b ≤ 70)

/-- `styles.NormalizeColor`: `#rgb` → `#rrggbb`, everything else unchanged -/
def normalizeColor (v : List B) : List B :=
  if v.length = 4 ∧ v.getD 0 0 = 35 ∧ isHex (v.getD 1 0) ∧ isHex (v.getD 2 0) ∧ isHex (v.getD 3 0) then
    [35, v.getD 1 0, v.getD 1 0, v.getD 2 0, v.getD 2 0, v.getD 3 0, v.getD 3 0]
  else v

theorem normalizeColor_cases (v : List B) :
    (v.length = 4 ∧ v.getD 0 0 = 35 ∧
      normalizeColor v = [35, v.getD 1 0, v.getD 1 0, v.getD 2 0, v.getD 2 0, v.getD 3 0, v.getD 3 0]) ∨
    normalizeColor v = v := by
  unfold normalizeColor
  split
  · next h => exact .inl ⟨h.1, h.2.1, rfl⟩
  · exact .inr rfl

theorem normalizeColor_idem (v : List B) : normalizeColor (normalizeColor v) = normalizeColor v := by
  rcases normalizeColor_cases v with ⟨_, _, h⟩ | h
  · rw [h]; unfold normalizeColor
    exact if_neg (fun hc => absurd hc.1 (by simp))     -- a six-digit colour is left alone
  · rw [h, h]

/-- every byte of the result is a byte the author wrote -/
theorem normalizeColor_digits (v : List B) : ∀ x ∈ normalizeColor v, x ∈ v := by
  rcases normalizeColor_cases v with ⟨hl, h0, h⟩ | h
  · have hm (i : Nat) (hi : i < 4) : v.getD i 0 ∈ v := by
      rw [← List.getElem_eq_getD (h := hl ▸ hi)]; exact List.getElem_mem _
    rw [h, ← h0]
    simp only [List.forall_mem_cons]
    exact ⟨hm 0 (by decide), hm 1 (by decide), hm 1 (by decide), hm 2 (by decide), hm 2 (by decide), hm 3 (by decide),
      hm 3 (by decide), nofun⟩
  · rw [h]; exact fun x hx => hx

/-- the loop of `fonts.ConvertFontFamiliesToURLs`: `out` = what has been appended so far (Go's `seen` is only asked for membership) -/
def dedupAux {α} [DecidableEq α] : List α → List α → List α
  | [], out => out
  | x :: r, out => if x ∈ out then dedupAux r out else dedupAux r (out ++ [x])

def dedupFirst {α} [DecidableEq α] (l : List α) : List α := dedupAux l []

theorem mem_dedupAux {α} [DecidableEq α] (l out : List α) (y : α) : y ∈ dedupAux l out ↔ y ∈ out ∨ y ∈ l := by
  fun_induction dedupAux l out with
  | case1 out => simp
  | case2 x r out hx ih =>
    rw [ih, List.mem_cons]
    constructor
    · exact Or.imp_right Or.inr
    · rintro (h | rfl | h)
      · exact .inl h
      · exact .inl hx          -- `x` is in `out` already
      · exact .inr h
  | case3 x r out hx ih => rw [ih, List.mem_append, List.mem_singleton, List.mem_cons, or_assoc]

theorem dedupAux_nodup {α} [DecidableEq α] (l out : List α) (h : out.Nodup) : (dedupAux l out).Nodup := by
  fun_induction dedupAux l out with
  | case1 out => exact h
  | case2 x r out hx ih => exact ih h
  | case3 x r out hx ih =>
    exact ih (List.nodup_append.mpr ⟨h, List.pairwise_singleton _ x, fun a ha b hb e => hx (List.mem_singleton.mp hb ▸ e ▸ ha)⟩)

/-- what the loop appends it takes from `l` in order -/
theorem dedupAux_sublist {α} [DecidableEq α] (l out : List α) : (dedupAux l out).Sublist (out ++ l) := by
  fun_induction dedupAux l out with
  | case1 out => rw [List.append_nil]; exact .refl _
  | case2 x r out hx ih => exact ih.trans ((List.sublist_cons_self x r).append_left out)
  | case3 x r out hx ih => rwa [List.append_assoc] at ih

/-- **every address once, none lost, in the order of use (a sublist)** -/
theorem dedupFirst_spec {α} [DecidableEq α] (l : List α) :
    (dedupFirst l).Nodup ∧ (∀ x, x ∈ dedupFirst l ↔ x ∈ l) ∧ (dedupFirst l).Sublist l :=
  ⟨dedupAux_nodup l [] List.nodup_nil, fun x => by simp [dedupFirst, mem_dedupAux], dedupAux_sublist l []⟩

theorem dedupAux_nodup_id {α} [DecidableEq α] (l out : List α) (h : (out ++ l).Nodup) : dedupAux l out = out ++ l := by
  fun_induction dedupAux l out with
  | case1 out => exact (List.append_nil _).symm
  | case2 x r out hx ih => exact absurd rfl ((List.nodup_append.mp h).2.2 x hx x List.mem_cons_self)
  | case3 x r out hx ih => rw [ih (by rwa [List.append_assoc]), List.append_assoc]; rfl

theorem dedupFirst_idem {α} [DecidableEq α] (l : List α) : dedupFirst (dedupFirst l) = dedupFirst l :=
  dedupAux_nodup_id _ [] (dedupFirst_spec l).1

/-- `ConvertFontFamiliesToURLs`: the address of every family (`lookup`, "" = no web font), the empty ones dropped, the
    first occurrence of each kept -/
def convert (lookup : List B → List B) (fams : List (List B)) : List (List B) :=
  dedupFirst ((fams.map lookup).filter (· ≠ []))

theorem convert_spec (lookup : List B → List B) (fams : List (List B)) :
    (convert lookup fams).Nodup ∧
    (∀ u, u ∈ convert lookup fams ↔ u ≠ [] ∧ ∃ f ∈ fams, lookup f = u) ∧
    (convert lookup fams).Sublist (fams.map lookup) := by
  unfold convert
  obtain ⟨h1, h2, h3⟩ := dedupFirst_spec ((fams.map lookup).filter (· ≠ []))
  refine ⟨h1, fun u => ?_, h3.trans List.filter_sublist⟩
  rw [h2 u]
  simp only [List.mem_filter, List.mem_map, decide_eq_true_eq]
  exact and_comm

def bytes (s : String) : List B := s.toUTF8.toList

/-- `fonts.BuildFontsTags`: the import block of the head -/
def fontTags (urls : List (List B)) : List B :=
  if urls = [] then [] else
  bytes "<!--[if !mso]><!-->" ++
  urls.flatMap (fun u => bytes "<link href=\"" ++ u ++ bytes "\" rel=\"stylesheet\" type=\"text/css\">") ++
  bytes "<style type=\"text/css\">" ++
  urls.flatMap (fun u => bytes "@import url(" ++ u ++ bytes ");") ++
  bytes "</style>" ++ bytes "<!--<![endif]-->"

end Gomjml.SmallPure
