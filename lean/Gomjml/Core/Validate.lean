import Gomjml.Gen.Allowed
/-! Model of attribute validation (`components.validateComponentAttributes`, `isGloballyAllowedAttribute`) and of the line
    lookup (`parser.lineLookup`). -/
namespace Gomjml.Validate

/-- `isGloballyAllowedAttribute`, with the two prefix tests as parameters (`String.startsWith` is opaque to the kernel) -/
structure Names where
  isData : String → Bool      -- has prefix "data-"
  isAria : String → Bool      -- has prefix "aria-"

def globally (N : Names) (a : String) : Bool :=
  a != "" && (N.isData a || N.isAria a || a == "mj-class" || a == "css-class" || a == "class")

/-- the attribute table of a tag, from rows (tag, attribute, type); none = no row for the tag: nothing is validated -/
def tableOf (allowed : List (String × String × String)) (tag : String) : Option (List String) :=
  let rows := allowed.filter (fun r => r.1 == tag)
  if rows.isEmpty then none else some (rows.map (fun r => r.2.1))

def accepted (N : Names) (allowed : List (String × String × String)) (tag a : String) : Bool :=
  match tableOf allowed tag with
  | none => true
  | some tbl => globally N a || tbl.contains a

structure Elem where
  tag : String
  attrs : List String
  line : Nat
deriving Repr

/-- (tag, attribute, line), in attribute order -/
def reportsOf (N : Names) (allowed : List (String × String × String)) (e : Elem) : List (String × String × Nat) :=
  (e.attrs.filter (fun a => !accepted N allowed e.tag a)).map (fun a => (e.tag, a, e.line))

def reports (N : Names) (allowed : List (String × String × String)) (es : List Elem) : List (String × String × Nat) :=
  es.flatMap (reportsOf N allowed)

theorem reportsOf_eq_nil (N : Names) (allowed) (e : Elem) :
    reportsOf N allowed e = [] ↔ ∀ a ∈ e.attrs, accepted N allowed e.tag a = true := by
  simp [reportsOf, List.filter_eq_nil_iff]

theorem reports_nil_iff (N : Names) (allowed) (es : List Elem) :
    reports N allowed es = [] ↔ ∀ e ∈ es, ∀ a ∈ e.attrs, accepted N allowed e.tag a = true := by
  simp only [reports, List.flatMap_eq_nil_iff, reportsOf_eq_nil]

theorem reports_sound (N : Names) (allowed) (es : List Elem) (r : String × String × Nat) (h : r ∈ reports N allowed es) :
    ∃ e ∈ es, r.1 = e.tag ∧ r.2.1 ∈ e.attrs ∧ r.2.2 = e.line ∧ accepted N allowed e.tag r.2.1 = false := by
  obtain ⟨e, he, hr⟩ := List.mem_flatMap.mp h
  obtain ⟨a, ha, rfl⟩ := List.mem_map.mp hr
  obtain ⟨ha, hacc⟩ := List.mem_filter.mp ha
  exact ⟨e, he, rfl, ha, rfl, by simpa using hacc⟩

/-- once each; `hnd` is an assumption on the input: `encoding/xml` hands on repeated names -/
theorem reportsOf_count (N : Names) (allowed) (e : Elem) (hnd : e.attrs.Nodup) (a : String) (ha : a ∈ e.attrs)
    (hbad : accepted N allowed e.tag a = false) : (reportsOf N allowed e).count (e.tag, a, e.line) = 1 := by
  have hnd' : (reportsOf N allowed e).Nodup :=
    List.Pairwise.map _ (fun a b h => by simpa using h) (List.Pairwise.filter _ hnd)
  rw [hnd'.count]
  exact if_pos (List.mem_map_of_mem (f := fun a => (e.tag, a, e.line)) (List.mem_filter.mpr ⟨ha, by simp [hbad]⟩))

theorem always_accepted (N : Names) (allowed) (tag a : String) (ha : a ≠ "")
    (h : N.isData a = true ∨ N.isAria a = true ∨ a = "mj-class" ∨ a = "css-class" ∨ a = "class") :
    accepted N allowed tag a = true := by
  have hg : globally N a = true := by
    simp only [globally, Bool.and_eq_true, Bool.or_eq_true, bne_iff_ne, ne_eq, beq_iff_eq, or_assoc]
    exact ⟨ha, h⟩
  unfold accepted
  split
  · rfl
  · rw [hg, Bool.true_or]

/-- `newLineLookup` behind its initial 0: the offset after every newline (`base` = offset of the first byte of `s`) -/
def nlOffsets (base : Nat) : List UInt8 → List Nat
  | [] => []
  | b :: r => if b == 10 then (base + 1) :: nlOffsets (base + 1) r else nlOffsets (base + 1) r

/-- `Line` without `lineBase`: the number of line starts ≤ offset (what its forward cache and its `sort.Search` both find) -/
def lineImpl (content : List UInt8) (offset : Nat) : Nat :=
  ((0 :: nlOffsets 0 content).filter (· ≤ offset)).length

def lineSpec (content : List UInt8) (offset : Nat) : Nat := 1 + (content.take offset).count 10

theorem nlOffsets_filter : ∀ (s : List UInt8) (base k : Nat),
    ((nlOffsets base s).filter (· ≤ k)).length = (s.take (k - base)).count 10
  | [], _, _ => by simp [nlOffsets]
  | b :: r, base, k => by
    have ih := nlOffsets_filter r (base + 1) k
    rw [Nat.sub_add_eq] at ih
    -- the claim for `r` from `base + 1`, plus one if `b` is a line feed before `k`
    by_cases hk : base + 1 ≤ k
    · rw [← Nat.sub_add_cancel (Nat.sub_pos_of_lt hk), List.take_succ_cons, List.count_cons, ← ih, nlOffsets]
      by_cases hb : (b == 10) = true
      · rw [if_pos hb, if_pos hb, List.filter_cons, if_pos (decide_eq_true hk), List.length_cons]
      · rw [if_neg hb, if_neg hb]; rfl
    · have h0 : k - base = 0 := Nat.sub_eq_zero_of_le (Nat.le_of_not_lt hk)
      rw [h0] at ih ⊢
      rw [nlOffsets]
      split
      · rw [List.filter_cons, if_neg (fun h => hk (of_decide_eq_true h))]; exact ih
      · exact ih

theorem line_correct (content : List UInt8) (offset : Nat) : lineImpl content offset = lineSpec content offset := by
  rw [lineImpl, lineSpec, List.filter_cons, if_pos (by simp), List.length_cons, nlOffsets_filter content 0 offset, Nat.add_comm]
  rfl

end Gomjml.Validate
