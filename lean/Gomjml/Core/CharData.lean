import Gomjml.Core.Amp
/-! C04: character data written back as HTML character data (`parser.EscapeCharData`).  `unescape` is what a client does with
    it: one left-to-right pass that decodes the three references.  Tied to the implementation by the driver `cdata`. -/
namespace Gomjml.CharData
open Gomjml.Amp

def eAmp : List B := [38, 97, 109, 112, 59]   -- "&amp;"
def eLt : List B := [38, 108, 116, 59]        -- "&lt;"
def eGt : List B := [38, 103, 116, 59]        -- "&gt;"

def escB (b : B) : List B := if b == 38 then eAmp else if b == 60 then eLt else if b == 62 then eGt else [b]

/-- `EscapeCharData` -/
def escape (s : List B) : List B := s.flatMap escB

/-- a client's decoding of the three references, one pass -/
def unescape : Nat → List B → List B
  | 0, s => s
  | _, [] => []
  | fuel + 1, b :: r =>
    if eAmp.isPrefixOf (b :: r) then 38 :: unescape fuel ((b :: r).drop 5)
    else if eLt.isPrefixOf (b :: r) then 60 :: unescape fuel ((b :: r).drop 4)
    else if eGt.isPrefixOf (b :: r) then 62 :: unescape fuel ((b :: r).drop 4)
    else b :: unescape fuel r

theorem _root_.List.length_le_flatMap {α β : Type} {f : α → List β} (hf : ∀ a, 1 ≤ (f a).length) :
    ∀ s : List α, s.length ≤ (s.flatMap f).length
  | [] => Nat.le_refl 0
  | a :: s => by
    have := hf a
    have := length_le_flatMap hf s
    simp only [List.flatMap_cons, List.length_append, List.length_cons]
    omega

theorem escB_cases (b : B) :
    (b = 38 ∧ escB b = eAmp) ∨ (b = 60 ∧ escB b = eLt) ∨ (b = 62 ∧ escB b = eGt) ∨ (b ≠ 38 ∧ b ≠ 60 ∧ b ≠ 62 ∧ escB b = [b]) := by
  unfold escB
  split
  · rename_i h1
    exact .inl ⟨eq_of_beq h1, rfl⟩
  · split
    · rename_i h2
      exact .inr (.inl ⟨eq_of_beq h2, rfl⟩)
    · split
      · rename_i h3
        exact .inr (.inr (.inl ⟨eq_of_beq h3, rfl⟩))
      · rename_i h1 h2 h3
        exact .inr (.inr (.inr ⟨mt beq_iff_eq.mpr h1, mt beq_iff_eq.mpr h2, mt beq_iff_eq.mpr h3, rfl⟩))

theorem escB_length (b : B) : 1 ≤ (escB b).length := by
  rcases escB_cases b with ⟨_, h⟩ | ⟨_, h⟩ | ⟨_, h⟩ | ⟨_, _, _, h⟩
  all_goals
    rw [h]
    exact Nat.le_add_left 1 _

theorem escape_length (s : List B) : s.length ≤ (escape s).length :=
  List.length_le_flatMap escB_length s

theorem escape_ne_nil {s : List B} (h : s ≠ []) : escape s ≠ [] :=
  List.ne_nil_of_length_pos (Nat.lt_of_lt_of_le (List.length_pos_iff.mpr h) (escape_length s))

theorem unescape_escB (b : B) (rest : List B) (fuel : Nat) :
    unescape (fuel + 1) (escB b ++ rest) = b :: unescape fuel rest := by
  rcases escB_cases b with ⟨rfl, h⟩ | ⟨rfl, h⟩ | ⟨rfl, h⟩ | ⟨h1, _, _, h⟩
  -- `&amp;`, `&lt;`, `&gt;`: the client's tests look at the reference only
  · rw [h]
    rfl
  · rw [h]
    rfl
  · rw [h]
    rfl
  -- no `&`, so no reference starts here
  · have hne : ((38 : B) == b) = false := beq_false_of_ne (Ne.symm h1)
    simp only [h, List.cons_append, List.nil_append, unescape, eAmp, eLt, eGt, List.isPrefixOf, hne, Bool.false_and,
      Bool.false_eq_true, if_false]

theorem unescape_escape : ∀ (s : List B) (fuel : Nat), s.length ≤ fuel → unescape fuel (escape s) = s
  | [], fuel, _ => by cases fuel <;> rfl
  | b :: r, 0, h => nomatch h
  | b :: r, fuel + 1, h => by
    rw [show escape (b :: r) = escB b ++ escape r from List.flatMap_cons, unescape_escB,
      unescape_escape r fuel (Nat.le_of_succ_le_succ h)]

theorem escB_no_markup (b : B) : ∀ x ∈ escB b, x ≠ 60 ∧ x ≠ 62 := by
  rcases escB_cases b with ⟨_, h⟩ | ⟨_, h⟩ | ⟨_, h⟩ | ⟨_, h2, h3, h⟩
  · rw [h]
    decide
  · rw [h]
    decide
  · rw [h]
    decide
  · intro x hx
    rw [h] at hx
    rw [List.mem_singleton.mp hx]
    exact ⟨h2, h3⟩

/-- **never markup**: the escaped text contains no `<` and no `>` -/
theorem escape_no_markup (s : List B) : ∀ b ∈ escape s, b ≠ 60 ∧ b ≠ 62 := by
  intro b hb
  obtain ⟨x, _, hx⟩ := List.mem_flatMap.mp hb
  exact escB_no_markup x b hx

/-- the fast path of the Go function -/
theorem escape_plain (s : List B) (h : ∀ b ∈ s, b ≠ 38 ∧ b ≠ 60 ∧ b ≠ 62) : escape s = s := by
  induction s with
  | nil => rfl
  | cons b r ih =>
    have hb := h b List.mem_cons_self
    unfold escape at ih ⊢
    simp only [List.flatMap_cons]
    rw [ih fun x hx => h x (List.mem_cons_of_mem _ hx)]
    simp [escB, hb.1, hb.2.1, hb.2.2]

end Gomjml.CharData
