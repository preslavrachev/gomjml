import Gomjml.Core.Leaves
/-! Every content component is inert for the three Spec checkers and holds exactly its author-content slots.
The definitions of `Leaves.lean` are flat `++` chains of literals: they are matched against `ns.map o ++ xs ++ ns.reverse.map c`,
and `kept live m []` against `[]`, by evaluation on literals.  Where a definition is not such a chain (a tag closed in a literal
with other tokens, a core of several pieces) the association is given by hand: `bal_nest_lit`, `(a := [])`, the carousel's `simpa only`. -/
namespace Gomjml.Leaves
open Gomjml.Spec Gomjml.Expand

section
variable {step : VS → GTok → Except String VS} {live : Nat → Bool} {vml hide : Bool}

/-- the tags of `S` the checker has on its stack in mode `m`: all or none -/
def kept (live : Nat → Bool) (m : Nat) (S : List String) : List String := S.filter fun _ => live m

theorem kept_live {m : Nat} (h : live m = true) (S : List String) : kept live m S = S := by simp [kept, h]
theorem kept_dead {m : Nat} (h : live m = false) (S : List String) : kept live m S = [] := by simp [kept, h]

theorem os_moves (hk : Checks step live vml hide) (m : Nat) : ∀ ns R : List String,
    MovesM step m (kept live m R) m (kept live m (ns.reverse ++ R)) (ns.map o)
  | [], _ => movesM_nil _ _ _
  | n :: ns, R => by
    have h1 : MovesM step m (kept live m R) m (kept live m (n :: R)) [o n] := fun st => by
      cases hl : live m
      · simp only [kept_dead hl]; exact runE_cons_ok (hk.spec.mpr (.skipO hl)) []
      · simp only [kept_live hl]; exact runE_cons_ok (hk.spec.mpr (.push hl fun _ => rfl)) []
    rw [List.reverse_cons, List.append_assoc]
    exact movesM_append h1 (os_moves hk m ns (n :: R))

theorem cs_moves (hk : Checks step live vml hide) (m : Nat) : ∀ ns R : List String,
    MovesM step m (kept live m (ns ++ R)) m (kept live m R) (ns.map c)
  | [], _ => movesM_nil _ _ _
  | n :: ns, R => by
    have h1 : MovesM step m (kept live m (n :: (ns ++ R))) m (kept live m (ns ++ R)) [c n] := fun st => by
      cases hl : live m
      · simp only [kept_dead hl]; exact runE_cons_ok (hk.spec.mpr (.skipC hl)) []
      · simp only [kept_live hl]; exact runE_cons_ok (hk.spec.mpr (.pop hl)) []
    exact movesM_append h1 (cs_moves hk m ns R)

theorem co_moves (hk : Checks step live vml hide) : MovesM step 0 [] 1 [] [.co] := fun _ => runE_cons_ok (hk.spec.mpr .co) []
theorem cc_moves (hk : Checks step live vml hide) : MovesM step 1 [] 0 [] [.cc] := fun _ => runE_cons_ok (hk.spec.mpr .cc) []
theorem nco_moves (hk : Checks step live vml hide) : MovesM step 0 [] 2 [] [.nco] := fun _ => runE_cons_ok (hk.spec.mpr .nco) []
theorem ncc_moves (hk : Checks step live vml hide) : MovesM step 2 [] 0 [] [.ncc] := fun _ => runE_cons_ok (hk.spec.mpr .ncc) []

/-- balanced fragments are closed under wrapping in tags -/
theorem bal_nest (hk : Checks step live vml hide) {m : Nat} {xs : List GTok} (h : Bal step m xs) (ns : List String) :
    Bal step m (ns.map o ++ xs ++ ns.reverse.map c) :=
  -- `▸`: the goal as `ns.map o ++ (xs ++ _)`; `kept live m []` and `[] ++ _` compute
  List.append_assoc .. ▸ movesM_append (os_moves hk m ns []) (movesM_append (movesM_lift h _) (cs_moves hk m ns.reverse []))

theorem bal_wrap (hk : Checks step live vml hide) (n : String) {m : Nat} {xs : List GTok} (h : Bal step m xs) :
    Bal step m (o n :: xs ++ [c n]) := bal_nest hk h [n]

theorem bal_nest_after (hk : Checks step live vml hide) {m : Nat} {pre xs : List GTok} (hp : Bal step m pre) (h : Bal step m xs) (ns : List String) :
    Bal step m (pre ++ ns.map o ++ xs ++ ns.reverse.map c) := by
  simpa only [List.append_assoc] using movesM_append hp (bal_nest hk h ns)

/-- `bal_nest` with the inner ends `a`, `b` written in the tags' literals -/
theorem bal_nest_lit (hk : Checks step live vml hide) (ns : List String) {m : Nat} {a xs b : List GTok} (h : Bal step m (a ++ xs ++ b)) :
    Bal step m (ns.map o ++ a ++ xs ++ (b ++ ns.reverse.map c)) := by
  simpa only [List.append_assoc] using bal_nest hk h ns

theorem bal_v (hk : Checks step live vml hide) (m : Nat) (n : String) : Bal step m [v n] :=
  fun _ => runE_cons_ok (hk.spec.mpr (.v fun _ _ => rfl)) []

theorem bal_t (hk : Checks step live vml hide) {s : String} : Bal step 0 [.t s] :=
  fun st => runE_cons_ok (hk.t_outside st s) []

theorem bal_co (hk : Checks step live vml hide) {xs : List GTok} (h : Bal step 1 xs) : Bal step 0 (.co :: xs ++ [.cc]) :=
  movesM_append (xs := [.co]) (co_moves hk) (movesM_append h (cc_moves hk))

theorem bal_nco (hk : Checks step live vml hide) {xs : List GTok} (h : Bal step 2 xs) : Bal step 0 (.nco :: xs ++ [.ncc]) :=
  movesM_append (xs := [.nco]) (nco_moves hk) (movesM_append h (ncc_moves hk))

/-- one Outlook conditional that closes `ns` and opens `ms`, above `R` opened by earlier ones -/
theorem cond_moves (hk : Checks step live vml hide) (ns ms R : List String) :
    MovesM step 0 (kept live 1 (ns ++ R)) 0 (kept live 1 (ms.reverse ++ R)) (.co :: ns.map c ++ ms.map o ++ [.cc]) :=
  movesM_append (xs := [.co]) (movesM_lift (co_moves hk) _)
    (movesM_append (movesM_append (cs_moves hk 1 ns R) (os_moves hk 1 ms R)) (movesM_lift (cc_moves hk) _))

theorem bal_ite' {m : Nat} (b : Bool) {xs : List GTok} (h : Bal step m xs) : Bal step m (ite' b xs) := by
  cases b
  · exact movesM_nil _ _ _
  · exact h

theorem text_bal (hk : Checks step live vml hide) (cn : Bool) : Bal step 0 (textToks cn) :=
  bal_nest hk (bal_ite' cn (bal_t hk)) ["tr", "td", "div"]

theorem button_bal (hk : Checks step live vml hide) (h cn : Bool) : Bal step 0 (buttonToks h cn) := by
  refine bal_nest hk ?_ ["tr", "td", "table", "tbody", "tr", "td", if h then "a" else "p"]
  split
  · exact bal_t hk
  · exact bal_v hk 0 _

theorem bal_img (hk : Checks step live vml hide) (m : Nat) (h : Bool) : Bal step m (if h then [o "a", v "img", c "a"] else [v "img"]) := by
  split
  · exact bal_wrap hk "a" (bal_v hk m "img")
  · exact bal_v hk m "img"

theorem image_bal (hk : Checks step live vml hide) (h : Bool) : Bal step 0 (imageToks h) :=
  bal_nest hk (bal_img hk 0 h) ["tr", "td", "table", "tbody", "tr", "td"]

theorem divider_bal (hk : Checks step live vml hide) : Bal step 0 dividerToks :=
  bal_nest hk (movesM_append (bal_wrap hk "p" (movesM_nil _ _ _)) (bal_co hk (bal_nest hk (bal_v hk 1 "#text") ["table", "tr", "td"])))
    ["tr", "td"]

theorem spacer_bal (hk : Checks step live vml hide) : Bal step 0 spacerToks := bal_nest hk (bal_v hk 0 "#text") ["tr", "td", "div"]

theorem table_bal (hk : Checks step live vml hide) (rows : Nat) (tx : Bool) : Bal step 0 (tableToks rows tx) := by
  refine bal_nest hk ?_ ["tr", "td", "table"]
  split
  · exact bal_ite' tx (bal_t hk)
  · exact movesM_replicate 0 [] _ rows (bal_nest hk (bal_t hk) ["tr", "td"])

theorem rawG_bal (hk : Checks step live vml hide) (b : Bool) : Bal step 0 (rawG b) := by
  cases b
  · exact bal_wrap hk "i" (bal_t hk)
  · exact movesM_nil _ _ _

theorem socText_bal (hk : Checks step live vml hide) (e : SocEl) :
    Bal step 0 (ite' e.text [o "td", o (if e.href then "a" else "span"), t, c (if e.href then "a" else "span"), c "td"]) :=
  bal_ite' _ (bal_nest hk (bal_t hk) ["td", if e.href then "a" else "span"])

theorem socElH_bal (hk : Checks step live vml hide) (e : SocEl) : Bal step 0 (socElH e) :=
  bal_nest hk (movesM_append (bal_nest hk (bal_img hk 0 e.href) ["td", "table", "tbody", "tr", "td"]) (socText_bal hk e))
    ["table", "tbody", "tr"]

theorem socElV_bal (hk : Checks step live vml hide) (e : SocEl) : Bal step 0 (socElV e) :=
  bal_wrap hk "tr" (movesM_append (bal_nest hk (bal_img hk 0 e.href) ["td", "table", "tbody", "tr", "td"]) (socText_bal hk e))

theorem socKidV_bal (hk : Checks step live vml hide) (k : SocChild) : Bal step 0 (socKidV k) := by
  cases k with
  | el e => exact socElV_bal hk e
  | raw b => exact rawG_bal hk b

/-- keeps whatever top `S` the separator keeps (Outlook: the open cell) -/
theorem socLoop_moves (hk : Checks step live vml hide) (S : List String) :
    ∀ (kids : List SocChild) (rem : Nat), (kids.any SocChild.isEl = true → Moves step S S socSep) → Moves step S S (socLoop rem kids)
  | [], _, _ => movesM_nil _ _ _
  | .raw b :: r, rem, h => movesM_append (movesM_base (rawG_bal hk b) S) (socLoop_moves hk S r rem h)
  | .el e :: r, rem, h => by
    refine movesM_append (movesM_append (movesM_base (socElH_bal hk e) S) ?_) (socLoop_moves hk S r (rem - 1) (fun _ => h rfl))
    split
    · exact h rfl
    · exact movesM_nil _ _ _

theorem social_bal (hk : Checks step live vml hide) (vm : Bool) (kids : List SocChild) : Bal step 0 (socialToks vm kids) := by
  refine bal_nest hk ?_ ["tr", "td"]
  split
  · exact bal_nest hk (movesM_flatMap 0 [] socKidV kids (fun k _ => socKidV_bal hk k)) ["table", "tbody"]
  · split
    · exact movesM_append (movesM_append (cond_moves hk [] ["table", "tr", "td"] [])
          (socLoop_moves hk _ kids _ fun _ => cond_moves hk ["td"] ["td"] ["tr", "table"]))
        (cond_moves hk ["td", "tr", "table"] [] [])
    · -- no element: no cell is opened, and no separator is written
      rename_i hn
      exact movesM_append (movesM_append (cond_moves hk [] ["table", "tr"] [])
          (socLoop_moves hk _ kids _ fun h => absurd (List.countP_pos_iff.2 (List.any_eq_true.mp h)) hn))
        (cond_moves hk ["tr", "table"] [] [])

theorem navLink_bal (hk : Checks step live vml hide) (cn : Bool) : Bal step 0 (navLink cn) :=
  bal_wrap hk "a" (bal_ite' cn (bal_t hk))

theorem hamburger_bal (hk : Checks step live vml hide) (hb : Bool) : Bal step 0 (ite' hb hamburgerToks) :=
  bal_ite' hb (movesM_append (bal_nco hk (bal_v hk 2 "input"))
    (bal_nest hk (movesM_append (bal_wrap hk "span" (bal_v hk 0 "#text")) (bal_wrap hk "span" (bal_v hk 0 "#text"))) ["div", "label"]))

/-- the inline-links loop behind its first child; `first` = no cell open yet.  The cell is an Outlook `<td>`: kept by a checker
    that follows tags in mode 1. -/
theorem navLoop_moves (hk : Checks step live vml hide) : ∀ (kids : List NavChild) (first : Bool),
    MovesM step 0 (if first then [] else kept live 1 ["td"]) 0
      (if first then (if kids.any NavChild.isLink then kept live 1 ["td"] else []) else kept live 1 ["td"]) (navLoop false first kids)
  | [], first => by cases first <;> exact movesM_nil _ _ _
  | .raw b :: r, first => movesM_append (movesM_base (rawG_bal hk b) _) (navLoop_moves hk r first)
  | .link cn :: r, first => by
    have h1 : MovesM step 0 (if first then [] else kept live 1 ["td"]) 0 (kept live 1 ["td"])
        (if first then [.co] ++ [o "td", .cc] else [.co, c "td", o "td", .cc]) := by
      cases first
      · exact cond_moves hk ["td"] ["td"] []
      · exact cond_moves hk [] ["td"] []
    have := movesM_append (movesM_append h1 (movesM_base (navLink_bal hk cn) _)) (navLoop_moves hk r false)
    -- the goal's `if first then (if (link cn :: r).any isLink …)` is the open cell either way
    cases first <;> exact this

/-- … and on entry, inside the opening conditional, which the first child leaves -/
theorem navLoop_entry (hk : Checks step live vml hide) : ∀ kids : List NavChild,
    MovesM step 1 [] (if kids.isEmpty then 1 else 0) (if kids.any NavChild.isLink then kept live 1 ["td"] else []) (navLoop true true kids)
  | [] => movesM_nil _ _ _
  | .raw b :: r => movesM_append (movesM_append (cc_moves hk) (rawG_bal hk b)) (navLoop_moves hk r true)
  | .link cn :: r =>
    have h1 : MovesM step 1 [] 0 (kept live 1 ["td"]) [o "td", .cc] :=
      movesM_append (os_moves hk 1 ["td"] []) (movesM_lift (cc_moves hk) _)
    movesM_append (movesM_append h1 (movesM_base (navLink_bal hk cn) _)) (navLoop_moves hk r false)

/-- Outlook's `<table><tr>` in the `<div>` around the loop: kept as far as tags are followed in modes 1 and 0 -/
theorem navbar_bal (hk : Checks step live vml hide) (hb : Bool) (kids : List NavChild) : Bal step 0 (navbarToks hb kids) := by
  have pre : MovesM step 0 [] 1 (kept live 1 ["tr", "table"] ++ kept live 0 ["div"]) [o "div", .co, o "table", o "tr"] :=
    movesM_append (os_moves hk 0 ["div"] []) (movesM_lift (movesM_append (co_moves hk) (os_moves hk 1 ["table", "tr"] [])) _)
  have post : MovesM step 1 (kept live 1 ["tr", "table"] ++ kept live 0 ["div"]) 0 [] [c "tr", c "table", .cc, c "div"] :=
    movesM_append (movesM_lift (movesM_append (cs_moves hk 1 ["tr", "table"] []) (cc_moves hk)) _) (cs_moves hk 0 ["div"] [])
  have tail : MovesM step (if kids.isEmpty then 1 else 0) (if kids.any NavChild.isLink then kept live 1 ["td"] else []) 1 []
      (if kids.any NavChild.isLink then [.co, c "td"] else if kids.isEmpty then [] else [.co]) := by
    cases hl : kids.any NavChild.isLink
    · cases kids with
      | nil => exact movesM_nil _ _ _
      | cons k r => exact co_moves hk
    · cases kids with
      | nil => cases hl
      | cons k r => exact movesM_append (movesM_lift (co_moves hk) _) (cs_moves hk 1 ["td"] [])
  have := movesM_append (movesM_append (movesM_append (movesM_append (hamburger_bal hk hb) pre)
    (movesM_lift (navLoop_entry hk kids) _)) (movesM_lift tail _)) post
  -- `this`: a `Bal step 0` once `[] ++ _` and the `if`s compute in its stacks; `a := []`: the association of `navbarToks`
  exact bal_nest_lit hk ["tr", "td"] (a := []) (b := [c "tr", c "table", .cc, c "div"]) this

theorem accIcon_bal (hk : Checks step live vml hide) (b : Bool) : Bal step 0 (ite' b accIcon) :=
  bal_ite' b (bal_nco hk (bal_wrap hk "td" (movesM_append (bal_v hk 2 "img") (bal_v hk 2 "img"))))

theorem accPart_bal (hk : Checks step live vml hide) (il : Bool) (p : AccPart) : Bal step 0 (accPartToks il p) := by
  cases p with
  | title cn =>
    exact bal_nest hk (movesM_append (bal_nest_after hk (accIcon_bal hk il) (bal_ite' cn (bal_t hk)) ["td"]) (accIcon_bal hk (!il)))
      ["div", "table", "tbody", "tr"]
  | text cn => exact bal_nest hk (bal_ite' cn (bal_t hk)) ["div", "table", "tbody", "tr", "td"]
  | raw b => exact rawG_bal hk b

theorem accEl_bal (hk : Checks step live vml hide) (e : AccEl) : Bal step 0 (accElToks e) := by
  have := movesM_append (bal_nco hk (bal_v hk 2 "input"))
    (bal_wrap hk "div" (movesM_flatMap 0 [] _ e.parts (fun p _ => accPart_bal hk e.iconLeft p)))
  exact bal_nest_lit hk ["tr", "td", "label"] (a := [.nco, v "input", .ncc, o "div"]) (xs := e.parts.flatMap _) (b := [c "div"]) this

theorem accKid_bal (hk : Checks step live vml hide) (k : AccChild) : Bal step 0 (accKidToks k) := by
  cases k with
  | el e => exact accEl_bal hk e
  | raw b => exact rawG_bal hk b

theorem accordion_bal (hk : Checks step live vml hide) (kids : List AccChild) : Bal step 0 (accordionToks kids) :=
  bal_nest hk (movesM_flatMap 0 [] accKidToks kids (fun k _ => accKid_bal hk k)) ["tr", "td", "table", "tbody"]

/-! the carousel is one nest: `tr(td(` not-Outlook block `div(inputs div(thumbs table(…)))`, Outlook fall-back image `))` -/

theorem carImage_bal (hk : Checks step live vml hide) (m : Nat) (h : Bool) : Bal step m (carImage h) := bal_nest hk (bal_img hk m h) ["div"]

theorem carousel_bal (hk : Checks step live vml hide) (th f : Bool) (r : List Bool) : Bal step 0 (carouselToks th f r) := by
  have icon : Bal step 2 carIcon := bal_wrap hk "label" (bal_v hk 2 "img")
  have cell {xs : List GTok} (h : Bal step 2 xs) : Bal step 2 ([o "td", o "div"] ++ xs ++ [c "div", c "td"]) := bal_nest hk h ["td", "div"]
  have icons := cell (movesM_replicate 2 [] _ (f :: r).length icon)
  have imgs := cell (movesM_flatMap 2 [] carImage (f :: r) (fun h _ => carImage_bal hk 2 h))
  have inputs := movesM_replicate 2 [] _ (f :: r).length (bal_v hk 2 "input")
  have thumbs := bal_ite' th (movesM_replicate 2 [] _ (f :: r).length (bal_nest hk (bal_v hk 2 "img") ["a", "label"]))
  have := bal_nest hk (movesM_append
    (bal_nco hk (bal_wrap hk "div" (movesM_append inputs (bal_wrap hk "div" (movesM_append thumbs
      (bal_nest hk (movesM_append (movesM_append icons imgs) icons) ["table", "tbody", "tr"]))))))
    (bal_co hk (carImage_bal hk 1 f))) ["tr", "td"]
  simpa only [carouselToks, carThumb, List.map, List.reverse_cons, List.reverse_nil, List.append_assoc, List.cons_append, List.nil_append] using this

end

theorem leaf_bal {step live vml hide} (hk : Checks step live vml hide) (l : LeafM) : Bal step 0 l.toks := by
  cases l with
  | keep => exact bal_t hk
  | text cn => exact text_bal hk cn
  | button h cn => exact button_bal hk h cn
  | image h => exact image_bal hk h
  | divider => exact divider_bal hk
  | spacer => exact spacer_bal hk
  | table r tx => exact table_bal hk r tx
  | social vm kids => exact social_bal hk vm kids
  | navbar hb ls => exact navbar_bal hk hb ls
  | accordion kids => exact accordion_bal hk kids
  | carousel th f r => exact carousel_bal hk th f r

/-- every content component is inert, whatever its parameters and however many children it has -/
theorem leaf_inert (l : LeafM) : Inert l.toks := ⟨leaf_bal std_checks l, leaf_bal mso_checks l, leaf_bal vis_checks l⟩

attribute [local simp] Expand.isT

theorem cntT_replicate (xs : List GTok) (n : Nat) : cntT (List.replicate n xs).flatten = n * cntT xs := by
  simp only [cntT, List.countP_flatten, List.map_replicate, List.sum_replicate_nat]

theorem cntT_flatMap {α} {f : α → List GTok} {g : α → Nat} {l : List α} (h : ∀ a, cntT (f a) = g a) :
    cntT (l.flatMap f) = (l.map g).sum :=
  List.countP_flatMap.trans (congrArg _ (List.map_congr_left fun a _ => h a))

theorem cntT_rawG (b : Bool) : cntT (rawG b) = rawSlots b := by cases b <;> rfl
theorem cntT_socElH (e : SocEl) : cntT (socElH e) = b2n e.text := by
  obtain ⟨h, tx⟩ := e; cases h <;> cases tx <;> rfl
theorem cntT_socElV (e : SocEl) : cntT (socElV e) = b2n e.text := by
  obtain ⟨h, tx⟩ := e; cases h <;> cases tx <;> rfl
theorem cntT_socKidV (k : SocChild) : cntT (socKidV k) = k.slots := by
  cases k with
  | el e => exact cntT_socElV e
  | raw b => exact cntT_rawG b
theorem cntT_socLoop : ∀ (kids : List SocChild) (rem : Nat), cntT (socLoop rem kids) = (kids.map SocChild.slots).sum
  | [], _ => rfl
  | .raw b :: r, rem => by simp [socLoop, cntT_rawG, cntT_socLoop r rem, SocChild.slots]
  | .el e :: r, rem => by
    simp only [socLoop, cntT_append, cntT_socElH, cntT_socLoop r (rem - 1), List.map_cons, List.sum_cons, SocChild.slots]
    split <;> simp [socSep, c, o]
theorem cntT_navLink (cn : Bool) : cntT (navLink cn) = b2n cn := by cases cn <;> rfl
theorem cntT_navLoop : ∀ (op first : Bool) (kids : List NavChild), cntT (navLoop op first kids) = (kids.map NavChild.slots).sum
  | _, _, [] => rfl
  | op, first, .raw b :: r => by
    simp only [navLoop, cntT_append, cntT_rawG, cntT_navLoop false first r, List.map_cons, List.sum_cons, NavChild.slots]
    cases op <;> simp
  | op, first, .link cn :: r => by
    simp only [navLoop, cntT_append, cntT_navLink, cntT_navLoop false false r, List.map_cons, List.sum_cons, NavChild.slots]
    cases op <;> cases first <;> simp [o, c]
theorem cntT_accPart (il : Bool) (p : AccPart) : cntT (accPartToks il p) = p.slots := by
  cases p with
  | title cn => cases il <;> cases cn <;> rfl
  | text cn => cases cn <;> rfl
  | raw b => exact cntT_rawG b
theorem cntT_accKid (k : AccChild) : cntT (accKidToks k) = k.slots := by
  cases k with
  | el e =>
    simp only [accKidToks, accElToks, cntT_append, cntT_flatMap (cntT_accPart e.iconLeft), AccChild.slots]
    simp [o, c, v]
  | raw b => exact cntT_rawG b
theorem cntT_carImage (h : Bool) : cntT (carImage h) = 0 := by cases h <;> rfl

/-- as many author-content tokens as content slots, whatever the parameters and children -/
theorem leaf_count : ∀ l : LeafM, cntT l.toks = l.slots
  | .keep => rfl
  | .text cn => by cases cn <;> rfl
  | .button h cn => by cases h <;> cases cn <;> rfl
  | .image h => by cases h <;> rfl
  | .divider => rfl
  | .spacer => rfl
  | .table r tx => by
    simp only [LeafM.toks, tableToks, LeafM.slots, cntT_append]
    split
    · cases tx <;> simp [o, c, t, ite', b2n]
    · rw [cntT_replicate]; simp [tableRow, o, c, t]
  | .social vm kids => by
    simp only [LeafM.toks, socialToks, LeafM.slots]
    cases vm
    · simp only [Bool.false_eq_true, if_false, cntT_append, cntT_socLoop]
      split <;> simp [o, c]
    · simp only [if_true, cntT_append, cntT_flatMap cntT_socKidV]
      simp [o, c]
  | .navbar hb kids => by
    simp only [LeafM.toks, navbarToks, LeafM.slots, cntT_append, cntT_navLoop]
    have hh : cntT (ite' hb hamburgerToks) = 0 := by cases hb <;> rfl
    have ht : cntT (if kids.any NavChild.isLink then [.co, c "td"] else if kids.isEmpty then [] else [.co]) = 0 := by
      split
      · rfl
      · split <;> rfl
    rw [hh, ht]
    simp [o, c]
  | .accordion kids => by
    simp only [LeafM.toks, accordionToks, LeafM.slots, cntT_append, cntT_flatMap cntT_accKid]
    simp [o, c]
  | .carousel th f r => by
    simp only [LeafM.toks, carouselToks, LeafM.slots, cntT_append, cntT_replicate,
      cntT_flatMap cntT_carImage, cntT_carImage]
    cases th <;> simp [o, c, v, ite', carThumb, carIcon, cntT_replicate, List.map_const', List.sum_replicate_nat]

end Gomjml.Leaves
