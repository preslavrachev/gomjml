import Gomjml.Core.Store
import Gomjml.Core.Resolve
/-! # The merge of the listed mj-class definitions (`NewBaseComponent`, `mjml/components/base.go`)

For every class name of the element's `mj-class` list, in list order, the definitions of that class (`classAttributesFor`: a
Go map, here an association list) are written into one map, `css-class` values being
collected apart and joined at the end.  `Resolve.classValue` / `Resolve.cssClassValue` — the class level of the resolution
Spec — take "per listed class, the value it defines for the attribute" as given; the loop computes exactly that. -/
namespace Gomjml.ClassMerge
open Gomjml.Store

/-- what one listed class contributes: nothing if it is not defined (`classAttributesFor` = nil) -/
abbrev ClassDefs := Option Attrs

def isCss (kv : String × String) : Bool := kv.1 == "css-class"

/-- one round of the outer loop; `norm` is `normalizeAttributeValue` -/
def step (norm : String → String → String) (acc : Attrs × List String) (ca : ClassDefs) : Attrs × List String :=
  match ca with
  | none => acc
  | some as =>
    (setAll acc.1 ((as.filter (fun kv => !isCss kv)).map (fun kv => (kv.1, norm kv.1 kv.2))),
     acc.2 ++ (as.filter isCss).map (·.2))

/-- the loop: the merged class attributes, and the css-class parts in list order -/
def merge (norm : String → String → String) (cas : List ClassDefs) : Attrs × List String :=
  cas.foldl (step norm) ([], [])

/-- `classAttrs["css-class"] = strings.Join(parts, " ")` when there are parts -/
def cssJoined (parts : List String) : String := " ".intercalate parts

/-- `Resolve.classValue` in the `orElse` form of `foldl_orElse` -/
def lastSome {α} (cs : List (Option α)) : Option α := cs.reverse.findSome? id

theorem lastSome_cons {α} (o : Option α) (r : List (Option α)) : lastSome (o :: r) = (lastSome r).orElse (fun _ => o) := by
  unfold lastSome
  rw [List.reverse_cons, List.findSome?_append, Option.orElse_eq_or]
  cases o <;> rfl

theorem classValue_eq (cs : List (Option String)) : Gomjml.Resolve.classValue cs = (lastSome cs).getD "" := by
  unfold Gomjml.Resolve.classValue lastSome
  generalize cs.reverse = l
  induction l with
  | nil => rfl
  | cons o l ih => cases o with
    | none => exact ih
    | some v => rfl

/-- what a class says about one attribute other than css-class, normalised -/
def says (norm : String → String → String) (a : String) (ca : ClassDefs) : Option String :=
  ca.bind (fun as => (lastDef as a).map (norm a))

theorem step_get (norm : String → String → String) (a : String) (ha : a ≠ "css-class") (acc : Attrs × List String)
    (ca : ClassDefs) : get (step norm acc ca).1 a = (says norm a ca).orElse (fun _ => get acc.1 a) := by
  cases ca with
  | none => rfl
  | some as =>
    simp only [step, says, Option.bind_some]
    rw [get_setAll, lastDef_map, lastDef_filter _ as a fun kv e => by simp [isCss, e, ha]]

theorem fold_get (norm : String → String → String) (a : String) (ha : a ≠ "css-class") (cas : List ClassDefs)
    (acc : Attrs × List String) :
    get (cas.foldl (step norm) acc).1 a = (lastSome (cas.map (says norm a))).orElse (fun _ => get acc.1 a) :=
  foldl_orElse (fun acc => get acc.1 a) (step norm) (says norm a) (fun cas => lastSome (cas.map (says norm a)))
    (step_get norm a ha) rfl (fun _ _ => lastSome_cons _ _) cas acc

/-- **the merged value of an attribute is what the last listed class that defines it says** (normalised):
    `Resolve.classValue` of the per-class values -/
theorem merge_get (norm : String → String → String) (a : String) (ha : a ≠ "css-class") (cas : List ClassDefs) :
    (get (merge norm cas).1 a).getD "" = Gomjml.Resolve.classValue (cas.map (says norm a)) := by
  unfold merge
  rw [fold_get norm a ha, classValue_eq]
  cases lastSome (cas.map (says norm a)) <;> rfl

theorem fold_css (norm : String → String → String) (cas : List ClassDefs) (acc : Attrs × List String) :
    (cas.foldl (step norm) acc).2 = acc.2 ++ cas.flatMap (fun ca => match ca with | none => [] | some as => (as.filter isCss).map (·.2)) :=
  foldl_append_obs (·.2) (step norm) _ (fun acc ca => by cases ca <;> simp [step]) cas acc

theorem map_of_length_le_one {α β} (f : α → β) : ∀ (l : List α), l.length ≤ 1 → l.map f = (l.head?.map f).toList
  | [], _ => rfl
  | [_], _ => rfl
  | _ :: _ :: _, h => by simp at h

theorem flatMap_eq_filterMap {α β} (f : α → List β) (g : α → Option β) :
    ∀ (xs : List α), (∀ x ∈ xs, f x = (g x).toList) → xs.flatMap f = xs.filterMap g
  | [], _ => rfl
  | x :: r, h => by
    rw [List.flatMap_cons, List.filterMap_cons, h x (List.mem_cons_self ..),
      flatMap_eq_filterMap f g r (fun y hy => h y (List.mem_cons_of_mem _ hy))]
    cases g x <;> rfl

/-- **css-class: every listed class that defines one contributes it, in list order** — `Resolve.cssClassValue` of the
    per-class values (a class's definitions are a Go map: at most one css-class each) -/
theorem merge_css (norm : String → String → String) (cas : List ClassDefs)
    (h1 : ∀ ca ∈ cas, ∀ as, ca = some as → (as.filter isCss).length ≤ 1) :
    cssJoined (merge norm cas).2 =
      Gomjml.Resolve.cssClassValue (cas.map (fun ca => ca.bind (fun as => ((as.filter isCss).head?).map (·.2)))) := by
  unfold cssJoined merge Gomjml.Resolve.cssClassValue
  rw [fold_css, List.filterMap_map]
  refine congrArg _ (flatMap_eq_filterMap _ _ cas fun ca hca => ?_)
  cases ca with
  | none => rfl
  | some as => exact map_of_length_le_one _ _ (h1 _ hca as rfl)

end Gomjml.ClassMerge
