import Gomjml.Core.SingleFlight
/-! A second invariant (`Live`) on top of `SFInv`, and no reachable deadlock. -/
namespace Gomjml.SingleFlight

def Alive (p : PC) (d : Bool) : Prop := d = true ∨ p = .lead ∨ p = .parsing ∨ p = .assigned

/-- for `progress`: past `assigned` a leader's flag is up; a waiter's leader has raised it or is on its way there -/
structure Live (s : St) : Prop where
  sig_done : ∀ t, (s.pc t = .signalled ∨ s.pc t = .deleting) → s.done t = true
  wait_live : ∀ t c, s.pc t = .waiting c →
    s.done c = true ∨ s.pc c = .lead ∨ s.pc c = .parsing ∨ s.pc c = .assigned

theorem live_init (key parse) : Live (init key parse) := by
  constructor <;> simp [init]

theorem Alive.done_of {p : PC} {d : Bool} (h : Alive p d) (hp : p.isLeader = false) : d = true := by
  rcases h with h | rfl | rfl | rfl
  · exact h
  all_goals exact nomatch hp

/-- `hmono`: no flag falls; `hp1`, `hp3`: `Live` at `p`; `hp2`: `t` stays alive for its waiters -/
theorem Live.step_to {s s' : St} {t : Tid} {p0 p : PC} (hl : Live s) (h0 : s.pc t = p0) (hpc : s'.pc = upd s.pc t p)
    (hmono : ∀ u, s.done u = true → s'.done u = true)
    (hp1 : (p = .signalled ∨ p = .deleting) → s'.done t = true)
    (hp2 : Alive p0 (s.done t) → Alive p (s'.done t))
    (hp3 : ∀ c, p = .waiting c → Alive (s.pc c) (s.done c)) : Live s' := by
  have alive : ∀ c, Alive (s.pc c) (s.done c) → Alive (s'.pc c) (s'.done c) := by
    intro c hc; rw [hpc, upd_apply]; split
    · next e => subst e; exact hp2 (h0 ▸ hc)
    · exact hc.imp_left (hmono c)
  constructor
  · intro u; rw [hpc, upd_apply]; split
    · next e => subst e; exact hp1
    · exact fun hu => hmono u (hl.sig_done u hu)
  · intro u c hu
    refine alive c ?_
    rw [hpc, upd_apply] at hu; split at hu
    · next e => subst e; exact hp3 c hu
    · exact hl.wait_live u c hu

theorem Live.step_idle {s s' : St} {t : Tid} {p0 p : PC} (hl : Live s) (h0 : s.pc t = p0) (hpc : s'.pc = upd s.pc t p)
    (hd : s'.done = s.done) (hl0 : p0.isLeader = false) (hp1 : ¬(p = .signalled ∨ p = .deleting))
    (hp3 : ∀ c, p ≠ .waiting c) : Live s' :=
  hl.step_to h0 hpc (fun _ hu => hd ▸ hu) (fun h => absurd h hp1) (fun ha => .inl (hd ▸ ha.done_of hl0))
    (fun c e => absurd e (hp3 c))

theorem live_step {s s' : St} {t : Tid} (h : SFInv s) (hl : Live s) (hs : step s t = some s') : Live s' := by
  unfold step at hs
  cases hp : s.pc t <;> rw [hp] at hs <;> dsimp only at hs
  case start | waiting c =>
    obtain ⟨_, ⟨⟩⟩ := Option.ite_none_right_eq_some.1 hs
    exact hl.step_idle hp rfl rfl rfl nofun nofun
  case locked =>
    split at hs
    · -- `c` is at a leader point; past `assigned` its flag is up
      next c hcall =>
      obtain rfl := Option.some.inj hs
      have hlead := (h.calls_leader (s.key t) c).1 hcall
      refine hl.step_to hp rfl (hmono := fun _ => id) (hp1 := nofun) (hp2 := fun ha => .inl (ha.done_of rfl))
        (hp3 := fun c' e => ?_)
      obtain rfl : c = c' := PC.waiting.inj e
      rcases PC.isLeader_iff.1 hlead.1 with hc | hc | hc | hc | hc
      · exact .inr (.inl hc)
      · exact .inr (.inr (.inl hc))
      · exact .inr (.inr (.inr hc))
      · exact .inl (hl.sig_done c (.inl hc))
      · exact .inl (hl.sig_done c (.inr hc))
    · obtain rfl := Option.some.inj hs
      exact hl.step_idle hp rfl rfl rfl nofun nofun
  case lead =>
    obtain rfl := Option.some.inj hs
    exact hl.step_to hp rfl (hmono := fun _ => id) (hp1 := nofun) (hp2 := fun _ => .inr (.inr (.inl rfl))) (hp3 := nofun)
  case parsing =>
    obtain rfl := Option.some.inj hs
    exact hl.step_to hp rfl (hmono := fun _ => id) (hp1 := nofun) (hp2 := fun _ => .inr (.inr (.inr rfl))) (hp3 := nofun)
  case assigned =>
    -- `done t` is raised
    obtain rfl := Option.some.inj hs
    have hd : upd s.done t true t = true := (upd_apply ..).trans (if_pos rfl)
    exact hl.step_to hp rfl (hmono := forall_update (P := fun u d => s.done u = true → d = true) (fun _ => id) fun _ => rfl)
      (hp1 := fun _ => hd) (hp2 := fun _ => .inl hd) (hp3 := nofun)
  case signalled =>
    obtain ⟨_, ⟨⟩⟩ := Option.ite_none_right_eq_some.1 hs
    have hd := hl.sig_done t (.inl hp)
    exact hl.step_to hp rfl (hmono := fun _ => id) (hp1 := fun _ => hd) (hp2 := fun _ => .inl hd) (hp3 := nofun)
  case deleting =>
    obtain rfl := Option.some.inj hs
    have hd := hl.sig_done t (.inr hp)
    exact hl.step_to hp rfl (hmono := fun _ => id) (hp1 := nofun) (hp2 := fun _ => .inl hd) (hp3 := nofun)
  case ret => cases hs

theorem live_reachable (key parse) (σ : List Tid) : Live (runSched (init key parse) σ) :=
  (runSched_induct (P := fun s => Inv s ∧ Live s) (fun h hs => ⟨inv_step h.1 hs, live_step h.1.sf h.2 hs⟩)
    ⟨inv_init key parse, live_init key parse⟩ σ).2

/-- **No deadlock** -/
theorem progress (s : St) (h : SFInv s) (hl : Live s) (t : Tid) (ht : ∀ r w, s.pc t ≠ .ret r w) :
    ∃ u, (step s u).isSome = true := by
  cases hm : s.mutex with
  | some m =>
    -- the holder is at `locked` or `deleting`, both enabled
    have hh := (h.mutex_iff m).1 hm
    refine ⟨m, ?_⟩
    unfold step
    cases hp : s.pc m <;> rw [hp] at hh
    case locked => dsimp only; cases s.calls (s.key m) <;> rfl
    case deleting => rfl
    all_goals exact nomatch hh
  | none =>
    -- `t` itself is enabled unless it waits for an unfinished leader, which then is
    cases hp : s.pc t with
    | start | signalled => exact ⟨t, by simp [step, hp, hm]⟩
    | locked => exact ⟨t, by unfold step; simp only [hp]; cases s.calls (s.key t) <;> simp⟩
    | lead | parsing | assigned | deleting => exact ⟨t, by simp [step, hp]⟩
    | ret r w => exact absurd hp (ht r w)
    | waiting c =>
      rcases hl.wait_live t c hp with hd | hc | hc | hc
      · exact ⟨t, by simp [step, hp, hd]⟩
      · exact ⟨c, by simp [step, hc]⟩
      · exact ⟨c, by simp [step, hc]⟩
      · exact ⟨c, by simp [step, hc]⟩

end Gomjml.SingleFlight
