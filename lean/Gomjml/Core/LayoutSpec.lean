import Gomjml.Core.Layout
import Gomjml.Core.Expand
/-! The vocabulary that takes the layout machines to the Spec checkers (`Tag.name`, `Tok.toG`, `modeOf`) and Outlook's view of
    the combined machine (`run_mso`); the other two views and `wf_spec` are in `LayoutStd`. -/
namespace Gomjml.Layout
open Gomjml.Spec

def Tag.name : Tag → String
  | .div => "div" | .table => "table" | .tbody => "tbody" | .tr => "tr" | .td => "td" | .para => "p" | .i => "i"
  | .vrect => "v:rect" | .vtextbox => "v:textbox" | .vfill => "v:fill" | .vimage => "v:image"

theorem Tag.name_inj : ∀ a b : Tag, a.name = b.name → a = b := by
  intro a b; cases a <;> cases b <;> simp [Tag.name]

def Tok.toG : Tok → GTok
  | .o n => .o n.outlookOnly n.name
  | .c n => .c n.outlookOnly n.name
  | .v n => .v n.outlookOnly n.name
  | .co => .co
  | .cc => .cc
  | .t => .t ""

/-- `Spec.VS.mode` for the two modes the layout has -/
def modeOf (m : Bool) : Nat := if m then 1 else 0

/-- a step of the combined machine is a step of Outlook's checker on Outlook's stack -/
theorem StepTok.mso {s r : MS} {x : Tok} (h : StepTok s x r) :
    Expand.Step (· != 2) false false ⟨modeOf s.mso, s.all.map Tag.name⟩ x.toG ⟨modeOf r.mso, r.all.map Tag.name⟩ := by
  cases h with
  | co => exact .co
  | cc => exact .cc
  | t => exact .t nofun
  | v => exact .v nofun
  | oMso | oStd => exact .push rfl nofun
  | cMso | cStd => exact .pop rfl

theorem run_mso : ∀ (ts : List Tok) (s s' : MS), run s ts = some s' →
    runE msoStep ⟨modeOf s.mso, s.all.map Tag.name⟩ (ts.map Tok.toG) = .ok ⟨modeOf s'.mso, s'.all.map Tag.name⟩
  | [], s, s', h => by cases h; rfl
  | x :: xs, s, s', h => by
    obtain ⟨s1, hx, h⟩ := run_cons_eq_some.mp h
    exact Expand.runE_cons_eq_ok.mpr ⟨_, Expand.mso_checks.spec.mpr (stepTok_inv hx).mso, run_mso xs s1 s' h⟩

end Gomjml.Layout
