import Gomjml.Core.Cdata
import Gomjml.Core.Lines
import Gomjml.Core.TextFlow
/-! What the XML layer delivers for the content of an mj-text: the round trip of `Cdata.lean` for the pass itself
    (`Lines.wrapInner`, both branches), and from there to the inner HTML of the element. -/
namespace Gomjml.Lines
open Gomjml.Amp Gomjml.Passes

/-- **mj-text content is delivered as written** (void tags normalised), when it does not begin with a CDATA section -/
theorem wrapInner_delivered (inner : List B) (h : cdStart.isPrefixOf (inner.dropWhile isWs) = false) :
    cdataDecode (wrapInner inner) = some (voidNorm inner) := by
  unfold wrapInner
  simp only [h, Bool.false_eq_true, if_false]
  rw [← Rr_replaceAll (voidNorm inner)]
  exact cdata_roundtrip (voidNorm inner)

/-- `bytes.Index` passes over a stretch without the first byte of the pattern -/
theorem indexSub_skip (c : B) (p : List B) : ∀ (pre w : List B), (∀ b ∈ pre, b ≠ c) →
    indexSub (c :: p) (pre ++ w) = (indexSub (c :: p) w).map (· + pre.length)
  | [], w, _ => by
    rw [List.nil_append]
    cases indexSub (c :: p) w <;> rfl
  | b :: pre, w, h => by
    rw [List.cons_append, indexSub, isPrefixOf_cons_ne p _ (h b List.mem_cons_self), if_neg Bool.false_ne_true,
      indexSub_skip c p pre w fun x hx => h x (List.mem_cons_of_mem _ hx), Option.map_map]
    rfl

theorem indexSub_some {pat w : List B} {i : Nat} (h : indexSub pat w = some i) :
    ∃ body rest, w = body ++ pat ++ rest ∧ body.length = i ∧ endsOnlyAt pat body := by
  fun_induction indexSub pat w generalizing i
  case case1 hp =>
    cases h
    exact ⟨[], [], by rw [hp]; rfl, rfl, nofun⟩
  case case2 => cases h
  case case3 hpre =>
    cases h
    exact ⟨[], _, (prefix_split pat _ hpre).symm, rfl, nofun⟩
  case case4 b r hnp ih =>
    obtain ⟨i1, h1, rfl⟩ := Option.map_eq_some_iff.mp h
    obtain ⟨body, rest, rfl, rfl, hb⟩ := ih h1
    exact ⟨b :: body, rest, rfl, rfl, (endsOnlyAt_cons_iff rest).mpr ⟨Bool.eq_false_iff.mpr hnp, hb⟩⟩

theorem indexSub_prefix {pat w : List B} {i : Nat} (h : indexSub pat w = some i) :
    pat.isPrefixOf (w.drop i) = true := by
  obtain ⟨body, r, rfl, rfl, _⟩ := indexSub_some h
  rw [List.append_assoc, List.drop_left]
  exact isPrefixOf_append_self _ _

/-- one section of the author's, cut out by `bytes.Index`, in front of whatever follows -/
theorem dec_section (w : List B) (e : Nat) (rest : List B) (he : indexSub cdEnd w = some e) :
    decodeBody (w.take (e + 3) ++ rest) = (dec rest).map (w.take e ++ ·) := by
  obtain ⟨body, r, rfl, rfl, hb⟩ := indexSub_some he
  -- `w.take e` is `body`, `w.take (e + 3)` is `body ++ cdEnd`
  rw [List.append_assoc, List.take_length_add_append, show (cdEnd ++ r).take 3 = cdEnd from rfl, List.take_left' rfl]
  exact decodeBody_body body rest hb

theorem decode_section : ∀ (w : List B) (e : Nat) (rest : List B), indexSub cdEnd w = some e → contOk rest →
    decodeBody (w.take (e + 3) ++ rest) = cont (w.take e) rest :=
  fun w e rest he hr => (dec_section w e rest he).trans (cont_dec _ rest hr).symm

/-! a run of sections is read from the front: `dec (section ++ rest)` from `dec rest` -/

theorem dec_piece (x : List B) {rest t : List B} (h : dec rest = some t) : dec (wrapPiece x ++ rest) = some (x ++ t) := by
  unfold wrapPiece
  rw [← Rr_replaceAll x, List.append_assoc, List.append_assoc, dec_cdStart, ← List.append_assoc, decodeBody_Rr_then, h]
  rfl

theorem dec_authored (u : List B) (e : Nat) {rest t : List B} (hu : cdStart.isPrefixOf u = true)
    (he : indexSub cdEnd u = some e) (h : dec rest = some t) : dec (u.take (e + 3) ++ rest) = some ((u.take e).drop 9 ++ t) := by
  obtain ⟨w, rfl⟩ : ∃ w, u = cdStart ++ w := ⟨_, (prefix_split _ _ hu).symm⟩
  -- the opener holds no `]`, so the `]]>` is found in `w`, at `e'` with `e = e' + 9`
  have hw : indexSub cdEnd (cdStart ++ w) = (indexSub cdEnd w).map (· + cdStart.length) :=
    indexSub_skip 93 [93, 62] cdStart w (by decide)
  obtain ⟨e', h1, rfl⟩ := Option.map_eq_some_iff.mp (hw.symm.trans he)
  -- the section is `cdStart ++ w.take (e' + 3)`, its text `w.take e'`
  rw [Nat.add_comm e', Nat.add_assoc, List.take_length_add_append, List.take_length_add_append,
    show (cdStart ++ w.take e').drop 9 = w.take e' from rfl, List.append_assoc, dec_cdStart, dec_section w e' rest h1, h]
  rfl

/-- the author's text: his CDATA sections opened, everything else as written; `none`: a section does not end -/
def authorText : Nat → List B → Option (List B)
  | 0, s => if s = [] then some [] else none
  | fuel + 1, s =>
    if s = [] then some [] else
    match indexSub cdStart s with
    | none => some s
    | some idx =>
      match indexSub cdEnd (s.drop idx) with
      | none => none
      | some e =>
        (authorText fuel ((s.drop idx).drop (e + 3))).map (fun r => s.take idx ++ (((s.drop idx).take e).drop 9 ++ r))

/-- **content behind a leading CDATA section is delivered as written** -/
theorem wrapOutside_dec {fuel : Nat} {s t : List B} (h : authorText fuel s = some t) : dec (wrapOutside fuel s) = some t := by
  fun_induction authorText fuel s generalizing t
  case case1 =>
    cases h
    rfl
  case case2 => cases h
  case case3 =>
    cases h
    rfl
  case case4 s hs hnone =>
    cases h
    rw [wrapOutside, if_neg hs, hnone]
    simpa using dec_piece s (rest := []) rfl
  case case5 => cases h
  -- a stretch (wrapped, unless empty), the author's section, the rest
  case case6 fuel s hs idx hidx e he ih =>
    obtain ⟨r, hr, rfl⟩ := Option.map_eq_some_iff.mp h
    have hsec := dec_authored _ e (indexSub_prefix hidx) he (ih hr)
    rw [wrapOutside, if_neg hs, hidx]
    simp only [he]
    split
    · rename_i h0
      subst h0
      exact hsec
    · exact dec_piece _ hsec

/-- `<![CDATA[a]]> &lt;`: the author's text is `a &lt;`, the escape as he wrote it -/
example : authorText 20 [60, 33, 91, 67, 68, 65, 84, 65, 91, 97, 93, 93, 62, 32, 38, 108, 116, 59] = some [97, 32, 38, 108, 116, 59] := by
  decide

theorem voidNorm_ink (s : List B) : TextFlow.ink (voidNorm s) = TextFlow.ink s := voidNormF_filter (by decide) _ _ s

end Gomjml.Lines
