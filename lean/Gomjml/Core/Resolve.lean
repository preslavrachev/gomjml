/-! Attribute resolution (`mjml/components/base.go`, `mjml/globals/attributes.go`) — C09.

Sources of a value for (element, attribute), each possibly absent; the empty string counts as absent, as in the code:
own attribute, the mj-class definitions the element lists (merged: a later class overrides an earlier one), the
`mj-attributes` default for the tag, the `mj-all` default, the component's built-in default. -/
namespace Gomjml.Resolve

structure Sources where
  own : String
  classes : List (Option String)     -- per listed mj-class, in list order: the value that class defines for the attribute
  tag : Option String                -- mj-attributes <tag attr=…/>   (none = not defined)
  all : Option String                -- mj-all
  builtin : String
deriving Repr, DecidableEq

/-- `NewBaseComponent`'s merge of the class definitions: the last class that DEFINES the attribute wins (even with "") -/
def classValue (cs : List (Option String)) : String :=
  match cs.reverse.find? Option.isSome with
  | some (some v) => v
  | _ => ""

/-- `GlobalAttributes.GetGlobalAttribute`: the tag default if defined (even empty), else mj-all -/
def globalValue (s : Sources) : String :=
  match s.tag with
  | some v => v
  | none => s.all.getD ""

/-- **Spec**: the highest-priority non-empty candidate -/
def winner (s : Sources) : String :=
  ([s.own, classValue s.classes, globalValue s, s.builtin].find? (· ≠ "")).getD ""

/-- `GetAttributeWithDefault` / `GetAttributeFast` -/
def accFull (s : Sources) : String :=
  if s.own ≠ "" then s.own
  else if classValue s.classes ≠ "" then classValue s.classes
  else if globalValue s ≠ "" then globalValue s
  else s.builtin

/-- a reduced accessor of older code (no longer used by `BaseComponent.GetAttribute`, which consults mj-attributes now):
    element, mj-class, nothing else -/
def accNoGlobal (s : Sources) : String :=
  if s.own ≠ "" then s.own else classValue s.classes

/-- `Node.GetAttribute` -/
def accRaw (s : Sources) : String := s.own

/-- the Spec looks at one candidate at a time -/
theorem first_cons (a : String) (r : List String) :
    ((a :: r).find? (· ≠ "")).getD "" = if a ≠ "" then a else (r.find? (· ≠ "")).getD "" := by
  rw [List.find?_cons]
  by_cases h : a = ""
  · simp [h]
  · simp [h]

theorem self_or_empty (a : String) : (if a ≠ "" then a else "") = a :=
  ite_eq_left_iff.2 fun h => (Decidable.not_not.1 h).symm

theorem first_ite (a b d : String) : (if (if a ≠ "" then a else b) ≠ "" then (if a ≠ "" then a else b) else d) =
    if a ≠ "" then a else if b ≠ "" then b else d := by
  by_cases h : a = ""
  · simp only [h, ne_eq, not_true, if_false]
  · simp only [ne_eq, h, not_false_eq_true, if_true]

/-- `BaseComponent.GetWrittenAttribute`: everything the author can write (element, mj-class, mj-attributes); the caller
    falls back to the built-in default itself -/
def accWritten (s : Sources) : String :=
  if s.own ≠ "" then s.own
  else if classValue s.classes ≠ "" then classValue s.classes
  else globalValue s

/-- `NewBaseComponent`'s merge for css-class: the values of all listed classes that define it, in list order, joined by a blank -/
def cssClassValue (cs : List (Option String)) : String := " ".intercalate (cs.filterMap id)

/-- `GetCSSClass` = `GetWrittenAttribute("css-class")`; css-class has no built-in default -/
def accCssClass (s : Sources) : String :=
  if s.own ≠ "" then s.own
  else if cssClassValue s.classes ≠ "" then cssClassValue s.classes
  else globalValue s

/-- Spec for css-class: the same precedence as every other attribute, with the joined class values at the mj-class level -/
def cssWinner (s : Sources) : String :=
  ([s.own, cssClassValue s.classes, globalValue s].find? (· ≠ "")).getD ""

end Gomjml.Resolve
