import Gomjml.Core.Passes
/-! CDATA round trip (C04 / C18): what the XML layer reads from `wrapMJTextContent`'s escaping of an `mj-text` body -/
namespace Gomjml.Passes
open Gomjml.Amp

/-- `cdEnd.isPrefixOf` (`pre9`: `cdStart.isPrefixOf`) as a match: on a `cons` it reduces by `rfl` -/
def pre3 : List B → Bool
  | a :: b :: c :: _ => a == 93 && b == 93 && c == 62
  | _ => false

def pre9 : List B → Bool
  | a1 :: a2 :: a3 :: a4 :: a5 :: a6 :: a7 :: a8 :: a9 :: _ =>
    a1 == 60 && a2 == 33 && a3 == 91 && a4 == 67 && a5 == 68 && a6 == 65 && a7 == 84 && a8 == 65 && a9 == 91
  | _ => false

/-- `strings.ReplaceAll(s, "]]>", "]]]]><![CDATA[>")`: `replaceAll` with a recursion of its own, for `fun_induction` -/
def Rr (s : List B) : List B :=
  match s with
  | [] => []
  | b :: t => if pre3 (b :: t) then cdEndSafe ++ Rr (t.drop 2) else b :: Rr t
termination_by s.length
decreasing_by
  · simp only [List.length_drop, List.length_cons]; omega
  · simp

/-- what `encoding/xml` hands `parseNode`'s text builder for adjacent CDATA sections, read from behind a `<![CDATA[`;
    `none`: no end, or something else than a section behind `]]>` -/
def decodeBody (s : List B) : Option (List B) :=
  match s with
  | [] => none
  | b :: t =>
    if pre3 (b :: t) then
      (if (t.drop 2).isEmpty then some []
       else if pre9 (t.drop 2) then decodeBody ((t.drop 2).drop 9) else none)
    else (decodeBody t).map (b :: ·)
termination_by s.length
decreasing_by
  · simp only [List.length_drop, List.length_cons]; omega
  · simp

def cdataWrap' (inner : List B) : List B := cdStart ++ Rr inner ++ cdEnd

def cdataDecode (s : List B) : Option (List B) := if pre9 s then decodeBody (s.drop 9) else none

theorem Rr_nil : Rr [] = [] := by rw [Rr]
theorem Rr_cons (b : B) (t : List B) :
    Rr (b :: t) = if pre3 (b :: t) then cdEndSafe ++ Rr (t.drop 2) else b :: Rr t := by rw [Rr]
theorem decodeBody_cons (b : B) (t : List B) :
    decodeBody (b :: t) = if pre3 (b :: t) then
      (if (t.drop 2).isEmpty then some []
       else if pre9 (t.drop 2) then decodeBody ((t.drop 2).drop 9) else none)
    else (decodeBody t).map (b :: ·) := by rw [decodeBody]

theorem decodeBody_skip {b : B} {t : List B} (h : pre3 (b :: t) = false) : decodeBody (b :: t) = (decodeBody t).map (b :: ·) := by
  rw [decodeBody_cons, h, if_neg Bool.false_ne_true]

theorem pre3_isPrefix : ∀ (s : List B), cdEnd.isPrefixOf s = pre3 s
  | [] => rfl
  | [a] => by
    show ((93 : B) == a && false) = false
    rw [Bool.and_false]
  | [a, b] => by
    show ((93 : B) == a && ((93 : B) == b && false)) = false
    rw [Bool.and_false, Bool.and_false]
  | a :: b :: c :: r => by
    show ((93 : B) == a && ((93 : B) == b && ((62 : B) == c && true))) = (a == 93 && b == 93 && c == 62)
    rw [Bool.and_true, Bool.and_assoc, BEq.comm (a := a), BEq.comm (a := b), BEq.comm (a := c)]

theorem Rr_replaceAll (s : List B) : Rr s = replaceAll cdEnd cdEndSafe s := by
  fun_induction Rr s
  -- the same test, by `pre3_isPrefix`
  all_goals
    rw [replaceAll.eq_def]
    simp only [show cdEnd ≠ [] by decide, ↓reduceDIte, pre3_isPrefix, *, ↓reduceIte, Bool.false_eq_true]
  case case2 => rfl

/-- `n` is not used -/
theorem Rr_eq_replaceAll : ∀ (n : Nat) (s : List B), s.length ≤ n → Rr s = replaceAll cdEnd cdEndSafe s :=
  fun _ s _ => Rr_replaceAll s

theorem pre3_shape (s : List B) (h : pre3 s = true) : ∃ t, s = 93 :: 93 :: 62 :: t :=
  ⟨s.drop 3, (prefix_split cdEnd s ((pre3_isPrefix s).trans h)).symm⟩

theorem pre3_third (b a c : B) (x : List B) (hc : (c == 62) = false) : pre3 (b :: a :: c :: x) = false := by
  show (b == 93 && a == 93 && c == 62) = false
  rw [hc, Bool.and_false]

/-- **escaping creates no terminator**: the second byte behind `b` comes from an escape `]]]…` or from the end `]]>` and is
    no `>`, or the three bytes are `t`'s own -/
theorem pre3_cons_Rr (b : B) (t y : List B) (h : pre3 (b :: t) = false) : pre3 (b :: (Rr t ++ cdEnd ++ y)) = false := by
  match t with
  | [] =>
    rw [Rr_nil]
    exact pre3_third b 93 93 _ rfl
  | a :: t' =>
    rw [Rr_cons]
    split
    · exact pre3_third b 93 93 _ rfl
    · match t' with
      | [] =>
        rw [Rr_nil]
        exact pre3_third b a 93 _ rfl
      | c :: t'' =>
        rw [Rr_cons]
        split
        · exact pre3_third b a 93 _ rfl
        · exact h

def contOk (rest : List B) : Prop := rest = [] ∨ pre9 rest = true

/-- `s`, then what the sections of `rest` hold (`contOk`: none, or `rest` begins one) -/
def cont (s rest : List B) : Option (List B) :=
  if rest = [] then some s else (decodeBody (rest.drop 9)).map (s ++ ·)

theorem pre9_cdStart (x : List B) : pre9 (cdStart ++ x) = true := rfl

theorem pre9_ne_nil {rest : List B} (h : pre9 rest = true) : rest ≠ [] := fun e => by subst e; cases h

end Gomjml.Passes
namespace Gomjml.Lines
open Gomjml.Amp Gomjml.Passes

/-- what a run of adjacent CDATA sections holds (`Lines.dec` to C04, needed here) -/
def dec (x : List B) : Option (List B) :=
  if x = [] then some [] else if pre9 x then decodeBody (x.drop 9) else none

end Gomjml.Lines
namespace Gomjml.Passes
open Gomjml.Amp

theorem cont_dec (s rest : List B) (h : contOk rest) : cont s rest = (Lines.dec rest).map (s ++ ·) := by
  unfold cont Lines.dec
  rcases h with rfl | h
  · simp
  · simp [pre9_ne_nil h, h]

theorem dec_cdStart (x : List B) : Lines.dec (cdStart ++ x) = decodeBody x := by
  rw [Lines.dec, if_neg (by simp [cdStart]), if_pos (pre9_cdStart x)]
  rfl

theorem decode_end (rest : List B) : decodeBody (93 :: 93 :: 62 :: rest) = Lines.dec rest := by
  rw [decodeBody_cons, if_pos (show pre3 (93 :: 93 :: 62 :: rest) = true from rfl)]
  cases rest <;> rfl

theorem decodeBody_body : ∀ (body rest : List B), endsOnlyAt cdEnd body →
    decodeBody (body ++ cdEnd ++ rest) = (Lines.dec rest).map (body ++ ·)
  | [], rest, _ => (decode_end rest).trans (by cases Lines.dec rest <;> rfl)
  | x :: t, rest, h => by
    obtain ⟨h0, ht⟩ := (endsOnlyAt_cons_iff rest).mp h
    rw [List.cons_append, List.cons_append, decodeBody_skip ((pre3_isPrefix _).symm.trans h0), decodeBody_body t rest ht,
      Option.map_map]
    -- the same function once `∘` unfolds
    rfl

/-- the escape is read as `]]>`: two brackets, the section's end, a new section, `>` -/
theorem decodeBody_safe (x : List B) :
    decodeBody (cdEndSafe ++ x) = (decodeBody x).map (fun r => 93 :: 93 :: 62 :: r) := by
  have hx : pre3 (62 :: x) = false := by
    match x with
    | [] | [_] | _ :: _ :: _ => rfl
  rw [show cdEndSafe ++ x = [93, 93] ++ cdEnd ++ (cdStart ++ 62 :: x) from rfl,
    decodeBody_body [93, 93] _ (endsOnlyAt_of_all (by decide)), dec_cdStart, decodeBody_skip hx, Option.map_map]
  rfl

theorem decodeBody_Rr_then (s rest : List B) : decodeBody (Rr s ++ cdEnd ++ rest) = (Lines.dec rest).map (s ++ ·) := by
  fun_induction Rr s
  case case1 => exact decodeBody_body [] rest nofun
  case case2 b t hp ih =>
    obtain ⟨s', hs'⟩ := pre3_shape _ hp
    obtain ⟨rfl, rfl⟩ := List.cons.inj hs'
    simp only [List.drop_succ_cons, List.drop_zero, List.append_assoc] at ih ⊢
    rw [decodeBody_safe, ih, Option.map_map]
    rfl
  case case3 b t hp ih =>
    rw [List.cons_append, List.cons_append, decodeBody_skip (pre3_cons_Rr b t rest (Bool.eq_false_iff.mpr hp)), ih, Option.map_map]
    rfl

/-- `n` is not used -/
theorem decodeBody_Rr_cont : ∀ (n : Nat) (s rest : List B), s.length ≤ n → contOk rest →
    decodeBody (Rr s ++ cdEnd ++ rest) = cont s rest :=
  fun _ s rest _ hr => (decodeBody_Rr_then s rest).trans (cont_dec s rest hr).symm

theorem decodeBody_Rr (s : List B) : decodeBody (Rr s ++ cdEnd) = some s := by
  simpa [Lines.dec] using decodeBody_Rr_then s []

theorem cdata_roundtrip (inner : List B) : cdataDecode (cdataWrap' inner) = some inner :=
  (if_pos rfl).trans (decodeBody_Rr inner)

example : cdataDecode (cdataWrap' [97, 93, 93, 62, 93, 93, 93, 62, 98, 93, 93]) = some [97, 93, 93, 62, 93, 93, 93, 62, 98, 93, 93] :=
  cdata_roundtrip _

end Gomjml.Passes
