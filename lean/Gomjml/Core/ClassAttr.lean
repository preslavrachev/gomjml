import Gomjml.Core.Lengths
/-! # From the classes of a component to its inlined declarations
    (`BuildClassAttribute`, `BuildInlineStyleString` / `ApplyInlineStyles`, `mjml/components/base.go`) -/
namespace Gomjml.ClassAttr
open Gomjml.Amp Gomjml.InlineCss Gomjml.Lengths

/-- the writing loop over the own classes: bytes written, and whether nothing has been written yet -/
def loop : List (List B) → Bool → List B × Bool
  | [], first => ([], first)
  | c :: r, first =>
    if c = [] then loop r first
    else ((if first then [] else [32]) ++ c ++ (loop r false).1, (loop r false).2)

def count (existing : List (List B)) (css : List B) : Nat :=
  (existing.filter (· ≠ [])).length + (if css ≠ [] then 1 else 0)

/-- `BuildClassAttribute(existing...)` of a component whose `css-class` resolves to `css` -/
def build (existing : List (List B)) (css : List B) : List B :=
  if count existing css = 0 then []
  else if count existing css = 1 then
    match existing.find? (· ≠ []) with
    | some c => c
    | none => css
  else
    (loop existing true).1 ++ (if css ≠ [] then (if (loop existing true).2 then [] else [32]) ++ css else [])

/-- the non-empty parts, joined by one blank -/
def joined : List (List B) → List B
  | [] => []
  | [c] => c
  | c :: d :: r => c ++ 32 :: joined (d :: r)

def spec (existing : List (List B)) (css : List B) : List B := joined ((existing ++ [css]).filter (· ≠ []))

/-- ` c` for every non-empty class; the first blank dropped when `first` -/
theorem loop_eq (l : List (List B)) (first : Bool) : loop l first =
    (((l.filter (· ≠ [])).flatMap (32 :: ·)).drop (if first then 1 else 0), first && (l.filter (· ≠ [])).isEmpty) := by
  fun_induction loop l first with
  | case1 first => simp
  | case2 r first ih => simpa using ih                      -- `[]` skipped: `filter_cons_of_neg`
  | case3 c r first h ih => cases first <;> simp [h, ih]    -- `filter_cons_of_pos`; `drop 1` takes the blank

theorem joined_eq : ∀ (l : List (List B)), joined l = (l.flatMap (32 :: ·)).drop 1
  | [] => rfl
  | [c] => by simp [joined]
  | c :: d :: r => by rw [joined, joined_eq (d :: r)]; simp

/-- **the Go function joins the non-empty parts by one blank** -/
theorem build_spec (existing : List (List B)) (css : List B) : build existing css = spec existing css := by
  unfold build spec count
  rw [loop_eq, joined_eq, List.filter_append, ← List.head?_filter]    -- `find?` as `head?` of the filter
  -- what is left: `if`s on the own classes' shape and on `css = []`
  cases existing.filter (· ≠ []) with
  | nil => by_cases hc : css = [] <;> simp [hc]        -- none: nothing, or `css`
  | cons c r =>
    cases r with
    | nil => by_cases hc : css = [] <;> simp [hc]      -- one: the shortcut, or the loop and ` css`
    | cons d r => by_cases hc : css = [] <;> simp [hc]    -- several: the loop

/-- only ASCII white space and `plain` bytes: no byte C2, E1, E2, E3 -/
def tame (s : List B) : Prop := ∀ b ∈ s, isAsciiSp b = true ∨ plain b = true

theorem fields_joined : ∀ (l : List (List B)), (∀ c ∈ l.dropLast, tame c) → fields (joined l) = l.flatMap fields
  | [], _ => rfl
  | [c], _ => by simp [joined]
  | c :: d :: r, h => by
    -- `dropLast` of `c :: d :: r` keeps the `c`
    rw [joined, fields_sep c 32 _ (h c List.mem_cons_self) rfl, fields_joined (d :: r) fun x hx => h x (List.mem_cons_of_mem _ hx)]
    simp

theorem flatMap_fields_filter : ∀ (l : List (List B)), (l.filter (· ≠ [])).flatMap fields = l.flatMap fields
  | [] => rfl
  | [] :: l => flatMap_fields_filter l    -- `fields [] = []`
  | (b :: x) :: l => congrArg (fields (b :: x) ++ ·) (flatMap_fields_filter l)

/-- **the classes of the built attribute**: the own parts', then `css-class`'s (no condition on it) -/
theorem fields_build (existing : List (List B)) (css : List B) (he : ∀ c ∈ existing, tame c) :
    fields (build existing css) = (existing ++ [css]).flatMap fields := by
  rw [build_spec, spec, fields_joined, flatMap_fields_filter]
  intro c hcm
  -- `css`, if there at all, is the last part
  have hex : c ∈ existing.filter (· ≠ []) := by
    rw [List.filter_append, List.filter_cons, List.filter_nil] at hcm
    split at hcm
    · rwa [List.dropLast_concat] at hcm
    · rw [List.append_nil] at hcm; exact List.dropLast_subset _ hcm
  exact he c (List.mem_filter.mp hex).1

def declBytes (d : Decl) : List B := d.prop ++ 58 :: (d.val ++ [59])

/-- `BuildInlineStyleString(classAttr)` over the table of inlined classes -/
def inlineStyle (t : Table) (classAttr : List B) : List B :=
  (fields classAttr).flatMap fun c => (t.get c).flatMap declBytes

/-- **from the style sheet text to the style string of a component** -/
theorem inlineStyle_build (texts : List (List B)) (existing : List (List B)) (css : List B)
    (he : ∀ c ∈ existing, tame c) :
    inlineStyle (collect texts) (build existing css) =
      ((existing ++ [css]).flatMap fields).flatMap fun c => (InlineCss.spec texts c).flatMap declBytes := by
  unfold inlineStyle
  rw [fields_build existing css he]
  congr 1
  funext c
  rw [collect_spec]

end Gomjml.ClassAttr
