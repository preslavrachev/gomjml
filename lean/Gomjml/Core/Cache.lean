import Gomjml.Core.Util
namespace Gomjml.Cache
/-! Model of the AST cache (`mjml/render.go`: `parseAST`, `startASTCacheCleanup`, `StopASTCacheCleanup`,
    the two once-only setters) and its refinement to the stateless compiler.  C13 / C14 / the cleanup half of C15.

    Time is an integer clock; `hash`, `parse`, `rend` are parameters (`World`).  The store is a function
    `CKey → Option Entry` (a `sync.Map`).  Ghost fields: `stored`, `ttlAt`, `spawned`, `cancelled` exist only to state
    invariants, `parses` to state C14.  Cached compilations: `step_hit` / `step_absent` / `step_expired`. -/

abbrev Doc := Nat
abbrev CKey := Nat
abbrev Ast := Nat
abbrev Html := Nat
abbrev Err := Nat
/-- the render options of one compilation (debug tags …): they steer the renderer, never the parser or the cache key -/
abbrev Opt := Nat

structure Entry where
  ast : Ast
  expires : Int
  stored : Int          -- ghost: when it was stored
  ttlAt : Int           -- ghost: the TTL in force when it was stored
deriving Repr, DecidableEq


/-- `minASTCacheCleanupInterval` (one second, in nanoseconds) -/
def minInterval : Int := 1000000000

structure CS where
  store : CKey → Option Entry
  now : Int
  ttl : Int
  interval : Int            -- astCacheCleanupInterval
  ttlDone : Bool            -- astCacheTTLOnce fired
  intDone : Bool            -- astCacheCleanupOnce fired
  cleaner : Bool            -- cleanupCancel != nil: a live (uncancelled) cleanup goroutine is registered
  spawned : Nat             -- ghost: cleanup goroutines started so far
  cancelled : Nat           -- ghost: cleanup goroutines cancelled so far
  parses : Nat              -- ghost: calls of the parser so far

/-- process start: empty cache, TTL 5 min, interval TTL/2, nothing configured, no cleaner -/
def init (ttl : Int := 300000000000) : CS :=
  { store := fun _ => none, now := 0, ttl := ttl, interval := ttl.tdiv 2, ttlDone := false, intDone := false,
    cleaner := false, spawned := 0, cancelled := 0, parses := 0 }

inductive Op
  | render (d : Doc) (cached : Bool) (o : Opt)
  | advance (δ : Nat)
  | tick                    -- one sweep of the cleanup goroutine (in Go a cancelled one may sweep once)
  | stop                    -- StopASTCacheCleanup
  | setTTL (d : Int)        -- SetASTCacheTTLOnce
  | setInterval (d : Int)   -- SetASTCacheCleanupIntervalOnce
deriving Repr

/-- parameters: the parser, the (pure, AST-preserving: C16) renderer, the hash -/
structure World where
  parse : Doc → Except Err Ast
  rend : Ast → Opt → Html
  hash : Doc → CKey

def spec (w : World) (d : Doc) (o : Opt) : Except Err Html := (w.parse d).map (fun a => w.rend a o)

def miss (w : World) (s : CS) (d : Doc) (o : Opt) : CS × Except Err Html :=
  match w.parse d with
  | .ok a => ({ s with store := fun k => if k = w.hash d then some ⟨a, s.now + s.ttl, s.now, s.ttl⟩ else s.store k,
                       parses := s.parses + 1 }, .ok (w.rend a o))
  | .error e => ({ s with parses := s.parses + 1 }, .error e)

/-- `startASTCacheCleanup`: register a cleaner unless one is registered -/
def arm (s : CS) : CS := if s.cleaner then s else { s with cleaner := true, spawned := s.spawned + 1 }

/-- the duration handed to `time.NewTicker` by a cleaner that starts now -/
def tickerArg (s : CS) : Int := if s.interval ≤ 0 then minInterval else s.interval

def sweep (s : CS) : CS :=
  { s with store := fun k => match s.store k with
                             | some e => if s.now > e.expires then none else some e
                             | none => none }

/-- `astCache.Delete(key)`; `step` inlines it -/
def evict (s : CS) (k : CKey) : CS := { s with store := fun k' => if k' = k then none else s.store k' }

def step (w : World) (s : CS) : Op → CS × Option (Except Err Html)
  | .render d false o => ({ s with parses := s.parses + 1 }, some (spec w d o))
  | .render d true o =>
    let s := arm s
    match s.store (w.hash d) with
    | some e =>
      if s.now < e.expires then (s, some (.ok (w.rend e.ast o)))                       -- hit: nothing changes
      else
        let s' := { s with store := fun k => if k = w.hash d then none else s.store k }  -- delete-on-expired
        let r := miss w s' d o
        (r.1, some r.2)
    | none => let r := miss w s d o; (r.1, some r.2)
  | .advance δ => ({ s with now := s.now + δ }, none)
  | .tick => (if s.cleaner then sweep s else s, none)
  | .stop => (if s.cleaner then { s with cleaner := false, cancelled := s.cancelled + 1 } else s, none)
  | .setTTL d =>
    (if s.ttlDone then s
     else { s with ttl := d, interval := if s.intDone then s.interval else d.tdiv 2, ttlDone := true }, none)
  | .setInterval d => (if s.intDone then s else { s with interval := d, intDone := true }, none)

structure CInv (w : World) (s : CS) : Prop where
  sound : ∀ k e, s.store k = some e → ∃ d, w.hash d = k ∧ w.parse d = .ok e.ast
  stamp : ∀ k e, s.store k = some e → e.expires = e.stored + e.ttlAt ∧ e.stored ≤ s.now
  life : s.spawned = s.cancelled + (if s.cleaner then 1 else 0)   -- ghost: `C15_one_cleaner`

@[simp] theorem arm_store (s : CS) : (arm s).store = s.store := by unfold arm; split <;> rfl
@[simp] theorem arm_now (s : CS) : (arm s).now = s.now := by unfold arm; split <;> rfl
@[simp] theorem arm_ttl (s : CS) : (arm s).ttl = s.ttl := by unfold arm; split <;> rfl
@[simp] theorem arm_parses (s : CS) : (arm s).parses = s.parses := by unfold arm; split <;> rfl

theorem sweep_store {s : CS} {k : CKey} {e : Entry} :
    (sweep s).store k = some e → s.store k = some e ∧ s.now ≤ e.expires := by
  simp only [sweep]
  cases s.store k with
  | none => exact fun h => (nomatch h)
  | some e0 =>
    dsimp only
    split
    · exact fun h => (nomatch h)
    · intro h; cases h; exact ⟨rfl, by omega⟩

theorem miss_fst (w : World) (s : CS) (d : Doc) (o : Opt) :
    (miss w s d o).1 = { s with parses := s.parses + 1, store := match w.parse d with
      | .ok a => fun k => if k = w.hash d then some ⟨a, s.now + s.ttl, s.now, s.ttl⟩ else s.store k
      | .error _ => s.store } := by
  unfold miss; cases w.parse d <;> rfl
theorem miss_out (w : World) (s : CS) (d : Doc) (o : Opt) : (miss w s d o).2 = spec w d o := by
  unfold miss spec
  cases w.parse d <;> rfl

theorem step_hit (w : World) {s : CS} {d : Doc} (o : Opt) {e : Entry} (hs : s.store (w.hash d) = some e)
    (hnow : s.now < e.expires) : step w s (.render d true o) = (arm s, some (.ok (w.rend e.ast o))) := by
  simp only [step, arm_store, arm_now, hs, hnow, if_true]

theorem step_absent (w : World) {s : CS} {d : Doc} (o : Opt) (hs : s.store (w.hash d) = none) :
    step w s (.render d true o) = ((miss w (arm s) d o).1, some (spec w d o)) := by
  simp only [step, arm_store, hs, miss_out]

theorem step_expired (w : World) {s : CS} {d : Doc} (o : Opt) {e : Entry} (hs : s.store (w.hash d) = some e)
    (hnow : e.expires ≤ s.now) :
    step w s (.render d true o) = ((miss w (evict (arm s) (w.hash d)) d o).1, some (spec w d o)) := by
  simp only [step, arm_store, arm_now, hs, Int.not_lt.2 hnow, if_false, miss_out, evict]

theorem step_render_cases (w : World) (s : CS) (d : Doc) (o : Opt) :
    (∃ e, s.store (w.hash d) = some e ∧ step w s (.render d true o) = (arm s, some (.ok (w.rend e.ast o)))) ∨
    step w s (.render d true o) = ((miss w (arm s) d o).1, some (spec w d o)) ∨
    step w s (.render d true o) = ((miss w (evict (arm s) (w.hash d)) d o).1, some (spec w d o)) := by
  cases hs : s.store (w.hash d) with
  | none => exact .inr (.inl (step_absent w o hs))
  | some e =>
    by_cases hnow : s.now < e.expires
    · exact .inl ⟨e, rfl, step_hit w o hs hnow⟩
    · exact .inr (.inr (step_expired w o hs (Int.not_lt.1 hnow)))

namespace CInv
/-- the store shrinks, the clock does not go back -/
theorem mono {w : World} {s s' : CS} (h : CInv w s) (hst : ∀ k e, s'.store k = some e → s.store k = some e)
    (hnow : s.now ≤ s'.now) (hl : s'.spawned = s'.cancelled + (if s'.cleaner then 1 else 0)) : CInv w s' where
  sound k e hk := h.sound k e (hst k e hk)
  stamp k e hk := ⟨(h.stamp k e (hst k e hk)).1, Int.le_trans (h.stamp k e (hst k e hk)).2 hnow⟩
  life := hl

/-- `hb` is asked outright: every use has it -/
theorem ite {w : World} {c : Bool} {a b : CS} (ha : c = true → CInv w a) (hb : CInv w b) :
    CInv w (if c then a else b) := by
  cases c
  · exact hb
  · exact ha rfl
end CInv

theorem inv_init (w : World) (ttl : Int) : CInv w (init ttl) :=
  ⟨fun _ _ h => (nomatch h), fun _ _ h => (nomatch h), rfl⟩

theorem arm_inv (w : World) (s : CS) (h : CInv w s) : CInv w (arm s) := by
  unfold arm
  split
  · exact h
  · rename_i hc
    exact ⟨h.sound, h.stamp, show s.spawned + 1 = s.cancelled + 1 by rw [h.life, if_neg hc]⟩

theorem evict_inv (w : World) (s : CS) (k : CKey) (h : CInv w s) : CInv w (evict s k) :=
  ⟨some_update h.sound (fun _ e => nomatch e), some_update h.stamp (fun _ e => nomatch e), h.life⟩

theorem miss_inv (w : World) (s : CS) (d : Doc) (o : Opt) (h : CInv w s) : CInv w (miss w s d o).1 := by
  rw [miss_fst]
  cases hp : w.parse d with
  | error e => exact ⟨h.sound, h.stamp, h.life⟩
  | ok a =>
    exact ⟨some_update h.sound fun e he => Option.some.inj he ▸ ⟨d, rfl, hp⟩,
      some_update h.stamp fun e he => Option.some.inj he ▸ ⟨rfl, Int.le_refl _⟩, h.life⟩

theorem step_inv (w : World) (s : CS) (op : Op) (h : CInv w s) : CInv w (step w s op).1 := by
  cases op with
  | render d c o =>
    cases c
    · exact ⟨h.sound, h.stamp, h.life⟩
    · rcases step_render_cases w s d o with ⟨e, _, heq⟩ | heq | heq <;> rw [heq]
      · exact arm_inv w s h
      · exact miss_inv w _ d o (arm_inv w s h)
      · exact miss_inv w _ d o (evict_inv w _ _ (arm_inv w s h))
  | advance δ => exact h.mono (fun _ _ hk => hk) (Int.le_add_of_nonneg_right (Int.natCast_nonneg δ)) h.life
  | tick => exact .ite (fun _ => h.mono (fun _ _ hk => (sweep_store hk).1) (Int.le_refl _) h.life) h
  | stop =>
    -- the new `life`, reduced
    exact .ite (fun hc => ⟨h.sound, h.stamp, show s.spawned = s.cancelled + 1 + 0 by rw [h.life, if_pos hc]⟩) h
  | setTTL _ | setInterval _ => exact .ite (fun _ => h) ⟨h.sound, h.stamp, h.life⟩

/-- C13's idea: a sound entry under `d`'s key holds the parse of `d` -/
theorem hit_spec {w : World} (hinj : ∀ d d', w.hash d = w.hash d' → d = d') {d : Doc} {a : Ast} (o : Opt)
    (h : ∃ d', w.hash d' = w.hash d ∧ w.parse d' = .ok a) : .ok (w.rend a o) = spec w d o := by
  obtain ⟨d', hk, hp⟩ := h
  cases hinj d' d hk
  simp only [spec, hp, Except.map]

/-- **C13** for one compilation, cached or not, in any state with the invariant -/
theorem step_transparent (w : World) (hinj : ∀ d d', w.hash d = w.hash d' → d = d')
    (s : CS) (h : CInv w s) (d : Doc) (c : Bool) (o : Opt) :
    (step w s (.render d c o)).2 = some (spec w d o) := by
  cases c
  · rfl
  · rcases step_render_cases w s d o with ⟨e, hs, heq⟩ | heq | heq
    · rw [heq, hit_spec hinj o (h.sound _ e hs)]
    · rw [heq]
    · rw [heq]

def runOps (w : World) (s : CS) : List Op → CS × List (Option (Except Err Html))
  | [] => (s, [])
  | op :: r => let (s1, o) := step w s op; let (s2, os) := runOps w s1 r; (s2, o :: os)

def expected (w : World) : List Op → List (Option (Except Err Html))
  | [] => []
  | .render d _ o :: r => some (spec w d o) :: expected w r
  | _ :: r => none :: expected w r

theorem step_nonrender_out (w : World) (s : CS) (op : Op) (h : ∀ d c o, op ≠ .render d c o) : (step w s op).2 = none := by
  cases op with
  | render d c o => exact absurd rfl (h d c o)
  | _ => rfl

theorem C13_transparent (w : World) (hinj : ∀ d d', w.hash d = w.hash d' → d = d') :
    ∀ (ops : List Op) (s : CS), CInv w s → (runOps w s ops).2 = expected w ops := by
  intro ops
  induction ops with
  | nil => intro s _; rfl
  | cons op r ih =>
    intro s h
    have hi := ih _ (step_inv w s op h)
    cases op with
    | render d c o => exact congr (congrArg List.cons (step_transparent w hinj s h d c o)) hi
    | _ => exact congrArg (List.cons none) hi

theorem runOps_inv (w : World) (ops : List Op) : ∀ s, CInv w s → CInv w (runOps w s ops).1 := by
  induction ops with
  | nil => exact fun _ h => h
  | cons op r ih => exact fun s h => ih _ (step_inv w s op h)

theorem inv_reachable (w : World) (ttl : Int) (ops : List Op) : CInv w (runOps w (init ttl) ops).1 :=
  runOps_inv w ops _ (inv_init w ttl)

/-- C14, the hit half: a hit changes nothing but the start of a cleaner -/
theorem hit_no_change (w : World) (s : CS) (d : Doc) (o : Opt) (e : Entry) (hs : s.store (w.hash d) = some e)
    (hnow : s.now < e.expires) : (step w s (.render d true o)).1 = arm s := by
  rw [step_hit w o hs hnow]

theorem after_tick (w : World) (s : CS) (hc : s.cleaner = true) (k : CKey) (e : Entry)
    (h : (step w s .tick).1.store k = some e) : e.expires ≥ s.now := by
  simp only [step, hc, if_true] at h
  exact (sweep_store h).2

/-- **configuration is total**: whatever durations are configured, the ticker is created with a positive one -/
theorem ticker_positive (s : CS) : 0 < tickerArg s := by
  unfold tickerArg minInterval; split <;> omega

/-- the first `setTTL d` sets the interval to `d / 2` as well -/
theorem ttl_default_interval (w : World) (ttl d : Int) : (step w (init ttl) (.setTTL d)).1.interval = d.tdiv 2 := rfl

/-- **cleanup lifecycle**: at most one live cleaner (`spawned − cancelled` is the flag);
    stopping cancels it; the next cached compilation starts exactly one -/
theorem live_cleaners (w : World) (s : CS) (h : CInv w s) : s.spawned - s.cancelled ≤ 1 := by
  rw [h.life, Nat.add_sub_cancel_left]; cases s.cleaner <;> decide
theorem stop_then_none (w : World) (s : CS) : (step w s .stop).1.cleaner = false := by
  simp only [step]; split <;> simp_all
theorem use_after_stop_starts_one (w : World) (s : CS) (d : Doc) (o : Opt) :
    let s1 := (step w s .stop).1
    let s2 := (step w s1 (.render d true o)).1
    s2.cleaner = true ∧ s2.spawned = s1.spawned + 1 := by
  intro s1 s2
  have h1 : s1.cleaner = false := stop_then_none w s
  have harm : (arm s1).cleaner = true ∧ (arm s1).spawned = s1.spawned + 1 := by simp [arm, h1]
  rcases step_render_cases w s1 d o with ⟨e, _, heq⟩ | heq | heq
  · simpa only [s2, heq] using harm
  -- `miss` touches neither `cleaner` nor `spawned`
  · simp only [s2, heq, miss_fst]; exact harm
  · simp only [s2, heq, miss_fst]; exact harm

end Gomjml.Cache
