/-! A Go map `range`: a fold over any permutation of entries with distinct keys (C05). -/
namespace Gomjml.Keys

theorem eq_of_key_eq {α β} (f : α → β) (l : List α) (nd : (l.map f).Nodup) : ∀ a ∈ l, ∀ b ∈ l, f a = f b → a = b :=
  have h : l.Pairwise fun a b => f a ≠ f b := List.pairwise_map.mp nd
  List.Pairwise.forall_of_forall_of_flip (R := fun a b => f a = f b → a = b) (fun _ _ _ => rfl)
    (h.imp fun hne e => absurd e hne) (h.imp fun hne e => absurd e.symm hne)

theorem foldl_perm {α β κ} (key : α → κ) (f : β → α → β) {l l' : List α} (h : l.Perm l') (nd : (l.map key).Nodup)
    (comm : ∀ z x y, key x ≠ key y → f (f z x) y = f (f z y) x) (z : β) : l.foldl f z = l'.foldl f z := by
  refine h.foldl_eq' (fun x hx y hy z => ?_) z
  by_cases hk : key x = key y
  · rw [eq_of_key_eq key l nd x hx y hy hk]
  · exact comm z x y hk

end Gomjml.Keys

namespace Gomjml.Perm

/-- the same up to `Perm`; no user -/
theorem foldl_insert_perm {α} (f : List α → α → List α)
    (hcomm : ∀ acc a b, (f (f acc a) b).Perm (f (f acc b) a))
    (hcong : ∀ acc acc' a, acc.Perm acc' → (f acc a).Perm (f acc' a)) :
    ∀ (l l' : List α), l.Perm l' → ∀ acc acc', acc.Perm acc' → (l.foldl f acc).Perm (l'.foldl f acc') := by
  have same : ∀ (l : List α) acc acc', acc.Perm acc' → (l.foldl f acc).Perm (l.foldl f acc') := fun l => by
    induction l with
    | nil => exact fun _ _ h => h
    | cons z l ih => exact fun _ _ h => ih _ _ (hcong _ _ z h)
  intro l l' hp
  induction hp with
  | nil => exact fun _ _ h => h
  | cons x _ ih => exact fun _ _ h => ih _ _ (hcong _ _ x h)
  | swap x y l => exact fun acc acc' h => same l _ _ ((hcomm acc y x).trans (hcong _ _ _ (hcong _ _ _ h)))
  | trans _ _ ih1 ih2 => exact fun acc acc' h => (ih1 acc acc (List.Perm.refl _)).trans (ih2 acc acc' h)

end Gomjml.Perm
