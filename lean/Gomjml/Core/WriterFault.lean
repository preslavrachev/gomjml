namespace Gomjml.WriterFault
/-! C06(a): a program that checks every write fails with the injected error and a prefix. -/

/-- Skeleton of a Render method: writes, sequence, conditionals, a call whose error is ignored.  Conditions
    are resolved by an environment (they never depend on write results). -/
inductive Prog
  | skip
  | write (s : String)                 -- `if _, err := w.WriteString(s); err != nil { return err }`
  | writeUnchecked (s : String)        -- `w.WriteString(s)` result dropped
  | seq (a b : Prog)
  | ite (c : Nat) (t e : Prog)         -- condition #c of the environment
  | swallow (a : Prog)                 -- `if err := a(); err != nil { /* ignored */ }`
deriving Repr

structure W where
  out : List String
  n : Nat            -- writes performed so far
deriving Repr

/-- writer failing at its k-th call (1-based); `none`: never -/
def wr (k : Option Nat) (w : W) (s : String) : Except Unit W :=
  if k = some (w.n + 1) then .error () else .ok { out := w.out ++ [s], n := w.n + 1 }

/-- final writer state, and whether the injected error was returned -/
def run (env : Nat → Bool) (k : Option Nat) : Prog → W → W × Bool
  | .skip, w => (w, false)
  | .write s, w => match wr k w s with
      | .ok w' => (w', false)
      | .error _ => ({ w with n := w.n + 1 }, true)                -- counted
  | .writeUnchecked s, w => match wr k w s with
      | .ok w' => (w', false)
      | .error _ => ({ w with n := w.n + 1 }, false)      -- error dropped, execution continues
  | .seq a b, w =>
      let r := run env k a w
      if r.2 then r else run env k b r.1
  | .ite c t e, w => if env c then run env k t w else run env k e w
  | .swallow a, w => ((run env k a w).1, false)

def Disciplined : Prog → Bool
  | .skip => true
  | .write _ => true
  | .writeUnchecked _ => false
  | .seq a b => Disciplined a && Disciplined b
  | .ite _ t e => Disciplined t && Disciplined e
  | .swallow _ => false

theorem run_none (env : Nat → Bool) (p : Prog) :
    ∀ w : W, (run env none p w).2 = false ∧ w.out <+: (run env none p w).1.out := by
  induction p with
  | skip => exact fun w => ⟨rfl, List.prefix_rfl⟩
  | write s | writeUnchecked s => intro w; simp [run, wr]
  | swallow a ih => exact fun w => ⟨rfl, (ih w).2⟩
  | seq a b iha ihb =>
    intro w
    have ha := iha w
    have hb := ihb (run env none a w).1
    simp only [run, ha.1, Bool.false_eq_true, if_false]
    exact ⟨hb.1, ha.2.trans hb.2⟩
  | ite c t e iht ihe =>
    intro w
    simp only [run]
    cases env c
    · exact ihe w
    · exact iht w

/-- C06(a): with a writer failing at call `k`, a disciplined program either never reaches call `k`
    and behaves exactly as with a healthy writer, or returns the injected failure having written a
    prefix of the fault-free output. -/
theorem run_fault (env : Nat → Bool) (k : Nat) : ∀ (p : Prog) (w : W), Disciplined p = true →
    ((run env (some k) p w).2 = false ∧ (run env (some k) p w).1 = (run env none p w).1) ∨
    ((run env (some k) p w).2 = true ∧ (run env (some k) p w).1.out <+: (run env none p w).1.out) := by
  intro p
  induction p with
  | skip => exact fun w _ => .inl ⟨rfl, rfl⟩
  | write s =>
    intro w _
    simp only [run, wr]
    by_cases h : some k = some (w.n + 1) <;> simp [h]  -- `h`: which disjunct
  | writeUnchecked s | swallow a => exact fun _ => nofun
  | seq a b iha ihb =>
    intro w hd
    obtain ⟨ha, hb⟩ := Bool.and_eq_true_iff.1 hd
    simp only [run, (run_none env a w).1, Bool.false_eq_true, if_false]
    rcases iha w ha with ⟨hf, he⟩ | ⟨hf, hpre⟩
    · -- `a` completed: the states agree, `n` too, so the hypothesis on `b` is about the same call
      simp only [hf, Bool.false_eq_true, if_false, he]
      exact ihb _ hb
    · -- `a` failed
      right
      simp only [hf, if_true, true_and]
      exact hpre.trans (run_none env b _).2
  | ite c t e iht ihe =>
    intro w hd
    obtain ⟨ht, he⟩ := Bool.and_eq_true_iff.1 hd
    simp only [run]
    cases env c
    · exact ihe w he
    · exact iht w ht

end Gomjml.WriterFault
