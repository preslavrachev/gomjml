import Gomjml.Core.Util
namespace Gomjml.SingleFlight
/-! C15: `singleflightDo` (`mjml/render.go`) as a transition system; safety for every interleaving. -/

abbrev Tid := Nat
abbrev Key := Nat
abbrev Res := Nat

inductive PC
  | start                 -- before `sfMutex.Lock()`
  | locked                -- holds the mutex, before the look-up of `sfCalls[hash]`
  | waiting (c : Tid)     -- found call `c` (named by its leader), mutex released, before `c.wg.Wait()`
  | lead                  -- registered own call, mutex released, before `fn`
  | parsing               -- inside `fn`
  | assigned              -- `c.res, c.err = fn()` done; deferred func not yet started
  | signalled             -- `c.wg.Done()` done, before re-locking
  | deleting              -- holds the mutex, before `delete(sfCalls, hash)`
  | ret (r : Option Res) (fromLeader : Option Tid)   -- returned `r`; `fromLeader` = whose call it waited on
deriving DecidableEq, Repr

structure St where
  pc : Tid → PC
  key : Tid → Key                 -- the hash each thread asks for (constant)
  mutex : Option Tid
  calls : Key → Option Tid        -- sfCalls: key ↦ leader of the in-flight call
  done : Tid → Bool               -- wg of the call led by t has been released
  res : Tid → Option Res          -- c.res of the call led by t
  parse : Tid → Res               -- what `fn` computes for thread t (arbitrary; no panic)

def upd {β} (f : Nat → β) (a : Nat) (b : β) : Nat → β := fun x => if x = a then b else f x
theorem upd_apply {β} (f : Nat → β) (a : Nat) (b : β) (x : Nat) : upd f a b x = if x = a then b else f x := rfl

/-- one atomic step of `t`; `none` = not enabled -/
def step (s : St) (t : Tid) : Option St :=
  match s.pc t with
  | .start => if s.mutex = none then some { s with mutex := some t, pc := upd s.pc t .locked } else none
  | .locked =>
    match s.calls (s.key t) with
    | some c => some { s with mutex := none, pc := upd s.pc t (.waiting c) }
    | none => some { s with mutex := none, calls := upd s.calls (s.key t) (some t), pc := upd s.pc t .lead }
  | .waiting c => if s.done c then some { s with pc := upd s.pc t (.ret (s.res c) (some c)) } else none
  | .lead => some { s with pc := upd s.pc t .parsing }
  | .parsing => some { s with res := upd s.res t (some (s.parse t)), pc := upd s.pc t .assigned }
  | .assigned => some { s with done := upd s.done t true, pc := upd s.pc t .signalled }
  | .signalled => if s.mutex = none then some { s with mutex := some t, pc := upd s.pc t .deleting } else none
  | .deleting => some { s with mutex := none, calls := upd s.calls (s.key t) none, pc := upd s.pc t (.ret (s.res t) none) }
  | .ret _ _ => none

def PC.isLeader : PC → Bool
  | .lead | .parsing | .assigned | .signalled | .deleting => true
  | _ => false

theorem PC.isLeader_iff {p : PC} :
    p.isLeader = true ↔ p = .lead ∨ p = .parsing ∨ p = .assigned ∨ p = .signalled ∨ p = .deleting := by
  cases p <;> simp [PC.isLeader]

def PC.holds : PC → Bool
  | .locked | .deleting => true
  | _ => false

structure SFInv (s : St) : Prop where
  mutex_iff : ∀ t, s.mutex = some t ↔ (s.pc t).holds = true
  calls_leader : ∀ k t, s.calls k = some t ↔ ((s.pc t).isLeader = true ∧ s.key t = k)
  done_res : ∀ t, s.done t = true → s.res t = some (s.parse t)
  done_pc : ∀ t, s.done t = true → (s.pc t = .signalled ∨ s.pc t = .deleting ∨ ∃ r, s.pc t = .ret r none)
  res_pc : ∀ t, (s.pc t = .assigned ∨ s.pc t = .signalled ∨ s.pc t = .deleting) → s.res t = some (s.parse t)
  wait_key : ∀ t c, s.pc t = .waiting c → s.key c = s.key t ∧ c ≠ t
  ret_wait : ∀ t r c, s.pc t = .ret r (some c) → r = some (s.parse c) ∧ s.key c = s.key t
  ret_lead : ∀ t r, s.pc t = .ret r none → r = some (s.parse t)

/-- `m` is the one thread whose point has `G`, if any (the mutex; a slot of `sfCalls`) -/
abbrev One (G : Tid → PC → Prop) (m : Option Tid) (pc : Tid → PC) : Prop := ∀ u, m = some u ↔ G u (pc u)
abbrev MutexOK (m : Option Tid) (pc : Tid → PC) : Prop := One (fun _ q => q.holds = true) m pc
abbrev CallsOK (calls : Key → Option Tid) (key : Tid → Key) (pc : Tid → PC) : Prop :=
  ∀ k, One (fun u q => q.isLeader = true ∧ key u = k) (calls k) pc

def init (key : Tid → Key) (parse : Tid → Res) : St :=
  { pc := fun _ => .start, key := key, mutex := none, calls := fun _ => none,
    done := fun _ => false, res := fun _ => none, parse := parse }

theorem leader_unique {s : St} (h : SFInv s) {t u : Tid} (hk : s.key t = s.key u) (ht : (s.pc t).isLeader = true)
    (hu : (s.pc u).isLeader = true) : t = u :=
  Option.mem_unique ((h.calls_leader _ t).2 ⟨ht, rfl⟩) ((h.calls_leader _ u).2 ⟨hu, hk.symm⟩)

/-- **Mutual exclusion of parses per key** -/
theorem no_overlap (s : St) (h : SFInv s) (t u : Tid) (hk : s.key t = s.key u)
    (ht : s.pc t = .parsing) (hu : s.pc u = .parsing) : t = u :=
  leader_unique h hk (by rw [ht]; rfl) (by rw [hu]; rfl)

/-- **Hand-over**: whoever returns holds a parse of its own key -/
theorem handover (s : St) (h : SFInv s) (t : Tid) (r : Option Res) (w : Option Tid) (ht : s.pc t = .ret r w) :
    ∃ c, s.key c = s.key t ∧ r = some (s.parse c) := by
  cases w with
  | none => exact ⟨t, rfl, h.ret_lead t r ht⟩
  | some c => exact ⟨c, (h.ret_wait t r c ht).2, (h.ret_wait t r c ht).1⟩

section
variable {s s' : St} {t : Tid}

/-- clauses `done_res` … `ret_lead` for one thread at `p` (`d`, `r`: its `done`, `res`).  `.ret _ none`: the flag may be
    up, and `done_res` must outlive `deleting`.  `signalled` / `deleting`: flag free here (`Live.sig_done`).
    Last line: the points before `assigned`. -/
def Thr (key : Tid → Key) (parse : Tid → Res) (t : Tid) (p : PC) (d : Bool) (r : Option Res) : Prop :=
  match p with
  | .assigned => d = false ∧ r = some (parse t)
  | .signalled | .deleting => r = some (parse t)
  | .waiting c => d = false ∧ key c = key t ∧ c ≠ t
  | .ret r' (some c) => d = false ∧ r' = some (parse c) ∧ key c = key t
  | .ret r' none => r' = some (parse t) ∧ (d = true → r = some (parse t))
  | _ => d = false

theorem Thr.of_done {key : Tid → Key} {parse : Tid → Res} {p : PC} {r : Option Res} (h : Thr key parse t p true r) :
    r = some (parse t) ∧ (p = .signalled ∨ p = .deleting ∨ ∃ r', p = .ret r' none) := by
  cases p with
  | signalled => exact ⟨h, .inl rfl⟩
  | deleting => exact ⟨h, .inr (.inl rfl)⟩
  | ret r' w => cases w with
    | none => exact ⟨h.2 rfl, .inr (.inr ⟨r', rfl⟩)⟩
    | some c => exact absurd h.1 nofun
  | assigned | waiting c => exact absurd h.1 nofun
  | _ => exact absurd h nofun

structure Inv (s : St) : Prop where
  mutex : MutexOK s.mutex s.pc
  calls : CallsOK s.calls s.key s.pc
  thr : ∀ t, Thr s.key s.parse t (s.pc t) (s.done t) (s.res t)

theorem Inv.sf (h : Inv s) : SFInv s where
  mutex_iff := h.mutex
  calls_leader := h.calls
  done_res t hd := (hd ▸ h.thr t).of_done.1
  done_pc t hd := (hd ▸ h.thr t).of_done.2
  res_pc t hp := by
    have := h.thr t
    rcases hp with hp | hp | hp <;> rw [hp] at this
    · exact this.2
    · exact this
    · exact this
  wait_key t c hp := (hp ▸ h.thr t).2
  ret_wait t r c hp := (hp ▸ h.thr t).2
  ret_lead t r hp := (hp ▸ h.thr t).1

theorem inv_init (key parse) : Inv (init key parse) where
  mutex _ := ⟨nofun, nofun⟩
  calls _ _ := ⟨nofun, fun h => nomatch h.1⟩
  thr _ := rfl

section
variable {key : Tid → Key} {parse : Tid → Res} {pc : Tid → PC} {dn : Tid → Bool} {rs : Tid → Option Res} {p p0 : PC}
  {m : Option Tid} {calls : Key → Option Tid}

theorem thr_pc (h : ∀ u, Thr key parse u (pc u) (dn u) (rs u)) (ht : Thr key parse t p (dn t) (rs t)) :
    ∀ u, Thr key parse u (upd pc t p u) (dn u) (rs u) :=
  -- `upd` unfolds to the lemma's `ite`
  forall_update (P := fun u p => Thr key parse u p (dn u) (rs u)) h ht

section
variable {G : Tid → PC → Prop}

theorem One.keep (h : One G m pc) (h0 : pc t = p0) (hp : G t p ↔ G t p0) : One G m (upd pc t p) := by
  intro u; rw [upd_apply]; split
  · next e => subst e; subst h0; exact (h u).trans hp.symm
  · exact h u

theorem One.enter (h : One G m pc) (hm : m = none) (ht : G t p) : One G (some t) (upd pc t p) := by
  intro u; rw [upd_apply]; split
  · next e => exact ⟨fun _ => e ▸ ht, fun _ => e ▸ rfl⟩
  · next ne => exact ⟨fun e => absurd (Option.some.inj e).symm ne, fun hu => nomatch hm ▸ (h u).2 hu⟩

theorem One.leave (h : One G m pc) (h0 : pc t = p0) (ht : G t p0) (hp : ¬G t p) : One G none (upd pc t p) := by
  intro u; rw [upd_apply]; split
  · next e => exact ⟨nofun, fun hu => absurd (e ▸ hu) hp⟩
  · next ne => exact ⟨nofun, fun hu => absurd (Option.mem_unique ((h u).2 hu) ((h t).2 (h0 ▸ ht))) ne⟩
end

theorem calls_keep (h : CallsOK calls key pc) (h0 : pc t = p0) (hp : p.isLeader = p0.isLeader) :
    CallsOK calls key (upd pc t p) :=
  fun k => (h k).keep h0 (by rw [hp])

theorem calls_other (h : CallsOK calls key pc) {k : Key} (hk : k ≠ key t) :
    One (fun u q => q.isLeader = true ∧ key u = k) (calls k) (upd pc t p) :=
  (h k).keep rfl ⟨fun hu => absurd hu.2.symm hk, fun hu => absurd hu.2.symm hk⟩

theorem calls_register (h : CallsOK calls key pc) (hnone : calls (key t) = none) (hp : p.isLeader = true) :
    CallsOK (upd calls (key t) (some t)) key (upd pc t p) := by
  intro k; rw [upd_apply]; split
  · next e => exact e ▸ (h _).enter hnone ⟨hp, rfl⟩
  · next hk => exact calls_other h hk

theorem calls_delete (h : CallsOK calls key pc) (h0 : pc t = p0) (hl : p0.isLeader = true) (hp : p.isLeader = false) :
    CallsOK (upd calls (key t) none) key (upd pc t p) := by
  intro k; rw [upd_apply]; split
  · next e => exact e ▸ (h _).leave h0 ⟨hl, rfl⟩ (by rw [hp]; nofun)
  · next hk => exact calls_other h hk

end

theorem inv_step (h : Inv s) (hs : step s t = some s') : Inv s' := by
  obtain ⟨hm, hc, hthr⟩ := h
  have ht := hthr t
  unfold step at hs
  cases hp : s.pc t <;> rw [hp] at hs ht <;> dsimp only at hs
  case start | signalled =>
    -- guard true, `s'` substituted
    obtain ⟨hfree, ⟨⟩⟩ := Option.ite_none_right_eq_some.1 hs
    exact ⟨hm.enter hfree rfl, calls_keep hc hp rfl, thr_pc hthr ht⟩
  case locked =>
    split at hs
    · -- `c ≠ t`: `c` leads, `t` is at `locked`
      next c hfound =>
      obtain rfl := Option.some.inj hs
      have hcl := (hc _ c).1 hfound
      have hct : c ≠ t := fun e => by rw [e, hp] at hcl; exact absurd hcl.1 nofun
      exact ⟨hm.leave hp rfl nofun, calls_keep hc hp rfl, thr_pc hthr ⟨ht, hcl.2, hct⟩⟩
    · next hnone =>
      obtain rfl := Option.some.inj hs
      exact ⟨hm.leave hp rfl nofun, calls_register hc hnone rfl, thr_pc hthr ht⟩
  case waiting c =>
    obtain ⟨hdone, ⟨⟩⟩ := Option.ite_none_right_eq_some.1 hs
    have hres : s.res c = some (s.parse c) := (hdone ▸ hthr c).of_done.1  -- flag up
    exact ⟨hm.keep hp .rfl, calls_keep hc hp rfl, thr_pc hthr ⟨ht.1, hres, ht.2.1⟩⟩
  case lead =>
    obtain rfl := Option.some.inj hs
    exact ⟨hm.keep hp .rfl, calls_keep hc hp rfl, thr_pc hthr ht⟩
  case parsing =>
    obtain rfl := Option.some.inj hs
    exact ⟨hm.keep hp .rfl, calls_keep hc hp rfl, forall_update₂ (P := fun u p r => Thr s.key s.parse u p (s.done u) r) hthr ⟨ht, rfl⟩⟩
  case assigned =>
    obtain rfl := Option.some.inj hs
    exact ⟨hm.keep hp .rfl, calls_keep hc hp rfl, forall_update₂ (P := fun u p d => Thr s.key s.parse u p d (s.res u)) hthr ht.2⟩
  case deleting =>
    obtain rfl := Option.some.inj hs
    exact ⟨hm.leave hp rfl nofun, calls_delete hc hp rfl rfl, thr_pc hthr ⟨ht, fun _ => ht⟩⟩
  case ret => cases hs
end

def runSched (s : St) : List Tid → St
  | [] => s
  | t :: r => match step s t with
    | some s' => runSched s' r
    | none => runSched s r

theorem runSched_induct {P : St → Prop} (hstep : ∀ {s t s'}, P s → step s t = some s' → P s') {s : St} (h : P s)
    (σ : List Tid) : P (runSched s σ) := by
  induction σ generalizing s with
  | nil => exact h
  | cons t r ih =>
    rw [runSched]
    cases hs : step s t with
    | none => exact ih h
    | some s' => exact ih (hstep h hs)

theorem inv_reachable (key parse) (σ : List Tid) : SFInv (runSched (init key parse) σ) :=
  (runSched_induct inv_step (inv_init key parse) σ).sf

theorem step_key {s s' : St} {t : Tid} (hs : step s t = some s') : s'.key = s.key := by
  unfold step at hs
  -- no branch of `step` assigns `key`
  split at hs <;> (try split at hs) <;> cases hs <;> rfl

theorem runSched_key (s : St) (σ : List Tid) : (runSched s σ).key = s.key :=
  runSched_induct (P := fun s' => s'.key = s.key) (fun h hs => (step_key hs).trans h) rfl σ

end Gomjml.SingleFlight
