import Gomjml.Core.InlineCss
/-! Where an authored length becomes a number (`mjml/styles/attributes.go`, `border.go`): `strings.Fields`, the choice of
    the horizontal values of a padding shorthand (`ParseHorizontalSpacing`), `ParsePixel` on plain decimal numbers and
    `ParseBorderWidth`.  The width Model (`Widths.impl`) starts from integers; this file is the parsing in front of it (not the
    truncation of a `Dec` to an integer). -/
namespace Gomjml.Lengths
open Gomjml.Amp Gomjml.InlineCss

/-! ### `strings.Fields`: maximal runs of bytes that are not (Unicode) white space -/

def emit (cur : List B) : List (List B) := if cur = [] then [] else [cur.reverse]

/-- `skip` = bytes of a multi-byte white-space character still to pass over -/
def fieldsS : Nat → List B → List B → List (List B)
  | _, [], cur => emit cur
  | skip + 1, _ :: r, cur => fieldsS skip r cur
  | 0, b :: r, cur =>
    if spaceLen (b :: r) = 0 then fieldsS 0 r (b :: cur)
    else emit cur ++ fieldsS (spaceLen (b :: r) - 1) r []

def fields (s : List B) : List (List B) := fieldsS 0 s []

def isAsciiSp (b : B) : Bool := b == 9 || b == 10 || b == 11 || b == 12 || b == 13 || b == 32
/-- a byte that neither is ASCII white space nor starts a multi-byte white-space character -/
def plain (b : B) : Bool := !isAsciiSp b && b != 0xC2 && b != 0xE1 && b != 0xE2 && b != 0xE3

theorem spaceLen_ascii {b : B} {r : List B} (h : isAsciiSp b = true) : spaceLen (b :: r) = 1 := by
  simp only [isAsciiSp, Bool.or_eq_true, beq_iff_eq] at h
  rcases h with ((((h | h) | h) | h) | h) | h <;> subst h <;> rfl

theorem spaceLen_plain {b : B} {r : List B} (h : plain b = true) : spaceLen (b :: r) = 0 := by
  unfold spaceLen
  split
  case h_13 => rfl    -- no pattern matches (`h_13` is a generated name: a new pattern renumbers it)
  -- the others begin with a literal byte, none plain
  all_goals
    rename_i heq
    cases heq
    exact absurd h (by decide)

theorem fieldsS_sp {x : B} {s cur : List B} (h : isAsciiSp x = true) : fieldsS 0 (x :: s) cur = emit cur ++ fields s := by
  rw [fieldsS, spaceLen_ascii h]; rfl

theorem fieldsS_plain {x : B} {s cur : List B} (h : plain x = true) : fieldsS 0 (x :: s) cur = fieldsS 0 s (x :: cur) := by
  rw [fieldsS, spaceLen_plain h]; rfl

theorem fieldsS_sep : ∀ (a : List B) (x : B) (b cur : List B), (∀ y ∈ a, isAsciiSp y = true ∨ plain y = true) →
    isAsciiSp x = true → fieldsS 0 (a ++ x :: b) cur = fieldsS 0 a cur ++ fields b
  | [], _, _, _, _, hx => fieldsS_sp hx
  | y :: a, x, b, cur, h, hx => by
    have ih := fun cur => fieldsS_sep a x b cur (fun z hz => h z (List.mem_cons_of_mem _ hz)) hx
    rcases h y List.mem_cons_self with hy | hy
    · rw [List.cons_append, fieldsS_sp hy, fieldsS_sp hy, fields, ih, List.append_assoc]; rfl
    · rw [List.cons_append, fieldsS_plain hy, fieldsS_plain hy, ih]

theorem fields_sep (a : List B) (x : B) (b : List B) (h : ∀ y ∈ a, isAsciiSp y = true ∨ plain y = true)
    (hx : isAsciiSp x = true) : fields (a ++ x :: b) = fields a ++ fields b := fieldsS_sep a x b [] h hx

theorem fields_spaces : ∀ (sp s : List B), (∀ b ∈ sp, isAsciiSp b = true) → fields (sp ++ s) = fields s
  | [], _, _ => rfl
  | b :: sp, s, h => by
    rw [List.cons_append, fields, fieldsS_sp (h b List.mem_cons_self)]
    exact fields_spaces sp s (fun x hx => h x (List.mem_cons_of_mem _ hx))

theorem fieldsS_word : ∀ (w cur : List B), (∀ b ∈ w, plain b = true) → fieldsS 0 w cur = emit (w.reverse ++ cur)
  | [], _, _ => rfl
  | b :: w, cur, h => by
    rw [fieldsS_plain (h b List.mem_cons_self), fieldsS_word w (b :: cur) (fun x hx => h x (List.mem_cons_of_mem _ hx)),
      List.reverse_cons, List.append_assoc]; rfl

theorem fields_word (w : List B) (hne : w ≠ []) (h : ∀ b ∈ w, plain b = true) : fields w = [w] := by
  rw [fields, fieldsS_word w [] h, List.append_nil, emit, if_neg (by simpa using hne), List.reverse_reverse]

/-- **the values of a shorthand do not depend on how they are separated** (by ASCII white space) -/
theorem fields_words : ∀ (ws : List (List B × List B)) (lead : List B),
    (∀ b ∈ lead, isAsciiSp b = true) →
    (∀ p ∈ ws, p.1 ≠ [] ∧ (∀ b ∈ p.1, plain b = true) ∧ (∀ b ∈ p.2, isAsciiSp b = true)) →
    (∀ i, i + 1 < ws.length → ∀ p, ws[i]? = some p → p.2 ≠ []) →
    fields (lead ++ ws.flatMap (fun p => p.1 ++ p.2)) = ws.map (·.1)
  | [], lead, hl, _, _ => by rw [fields_spaces lead _ hl]; rfl
  | p :: rest, lead, hl, hp, hs => by
    obtain ⟨hne, hw, hsp⟩ := hp p List.mem_cons_self
    rw [fields_spaces lead _ hl, List.flatMap_cons, List.map_cons, List.append_assoc]
    cases hsep : p.2 with
    | nil =>
      -- the last value
      cases rest with
      | nil => rw [List.flatMap_nil, List.append_nil, List.append_nil, fields_word p.1 hne hw]; rfl
      | cons q r => exact absurd hsep (hs 0 (Nat.succ_lt_succ (Nat.zero_lt_succ _)) p rfl)
    | cons b sp =>
      -- `b` separates; the white space `sp` behind it is the `lead` of the recursive call
      rw [hsep] at hsp
      rw [List.cons_append, fields_sep p.1 b _ (fun y hy => .inr (hw y hy)) (hsp b List.mem_cons_self), fields_word p.1 hne hw]
      exact congrArg (p.1 :: ·) (fields_words rest sp (fun x hx => hsp x (List.mem_cons_of_mem _ hx))
        (fun q hq => hp q (List.mem_cons_of_mem _ hq)) (fun i hi q hq => hs (i + 1) (Nat.succ_lt_succ hi) q hq))

/-- `ParseHorizontalSpacing`'s choice: (left, right) among one to four values -/
def hsel {α : Type} : List α → Option (α × α)
  | [a] => some (a, a)
  | [_, b] => some (b, b)
  | [_, b, _] => some (b, b)
  | [_, b, _, d] => some (d, b)
  | _ => none

/-- CSS: `padding: t r b l` with missing values taken from the opposite side -/
def cssSides {α : Type} : List α → Option (α × α × α × α)      -- top right bottom left
  | [a] => some (a, a, a, a)
  | [a, b] => some (a, b, a, b)
  | [a, b, c] => some (a, b, c, b)
  | [a, b, c, d] => some (a, b, c, d)
  | _ => none

/-- **the horizontal pair is CSS's left and right** -/
theorem hsel_css {α : Type} (vs : List α) :
    hsel vs = (cssSides vs).map (fun s => (s.2.2.2, s.2.1)) := by
  match vs with
  | [] => rfl
  | [_] => rfl
  | [_, _] => rfl
  | [_, _, _] => rfl
  | [_, _, _, _] => rfl
  | _ :: _ :: _ :: _ :: _ :: _ => rfl

/-! ### `ParsePixel` on plain decimals: optional sign, digits, optional fraction, optional `px` -/

structure Dec where
  neg : Bool
  mant : Nat        -- all digits, the decimal point removed
  frac : Nat        -- number of digits behind the point
deriving DecidableEq, Repr

def isDig (b : B) : Bool := 48 ≤ b && b ≤ 57

def digitsVal (ds : List B) : Nat := ds.foldl (fun acc d => acc * 10 + (d.toNat - 48)) 0

/-- `none` = outside the modelled grammar (exponents, hex floats, inf / nan, underscores …) or not a number at all -/
def parseDec (s : List B) : Option Dec :=
  let (neg, body) := match s with
    | 45 :: r => (true, r)
    | 43 :: r => (false, r)
    | _ => (false, s)
  let ip := body.takeWhile isDig
  let rest := body.dropWhile isDig
  match rest with
  | [] => if ip = [] then none else some ⟨neg, digitsVal ip, 0⟩
  | 46 :: fr => if fr.all isDig && !(ip = [] && fr = []) then some ⟨neg, digitsVal (ip ++ fr), fr.length⟩ else none
  | _ => none

def pxSuffix : List B := [112, 120]

/-- `strings.TrimSuffix(value, "px")` -/
def trimPx (s : List B) : List B :=
  if pxSuffix.isSuffixOf s then s.take (s.length - 2) else s

/-- `ParsePixel` (the empty string is "no value", `none` here too) -/
def parsePixel (s : List B) : Option Dec := if s = [] then none else parseDec (trimPx s)

/-- `ParseHorizontalSpacing` (`none` also for a value outside the grammar) -/
def hspacing (s : List B) : Option (Dec × Dec) :=
  match hsel (fields s) with
  | none => none
  | some (l, r) =>
    match parsePixel l, parsePixel r with
    | some a, some b => some (a, b)
    | _, _ => none

/-- `ParseBorderWidth` before truncation: the first field of the border shorthand, `none` when there is none -/
def borderField (s : List B) : Option Dec :=
  match fields s with
  | f :: _ => parsePixel f
  | [] => none

/-- non-vacuity: `" 10px\t20.0px  30 "` has three fields and the horizontal pair (20.0, 20.0) -/
example : fields [32, 49, 48, 112, 120, 9, 50, 48, 46, 48, 112, 120, 32, 32, 51, 48, 32] =
    [[49, 48, 112, 120], [50, 48, 46, 48, 112, 120], [51, 48]] ∧
    hspacing [32, 49, 48, 112, 120, 9, 50, 48, 46, 48, 112, 120, 32, 32, 51, 48, 32] = some (⟨false, 200, 1⟩, ⟨false, 200, 1⟩) := by decide +kernel

inductive SpRes
  | empty                       -- "" : no value, no error
  | reject                      -- not one, two or four values
  | outside                     -- a value outside the modelled number grammar (the implementation may accept or reject it)
  | ok (t r b l : Dec)
deriving DecidableEq, Repr

/-- `ParseSpacing` -/
def spacing (s : List B) : SpRes :=
  if s = [] then .empty else
  match fields s with
  | [a] => match parsePixel a with
    | some x => .ok x x x x
    | none => .outside
  | [a, b] => match parsePixel a, parsePixel b with
    | some x, some y => .ok x y x y
    | _, _ => .outside
  | [a, b, c, d] => match parsePixel a, parsePixel b, parsePixel c, parsePixel d with
    | some x, some y, some z, some w => .ok x y z w
    | _, _, _, _ => .outside
  | _ => .reject

inductive HRes
  | zero                        -- left and right stay 0
  | outside
  | pair (l r : Dec)
deriving DecidableEq, Repr

/-- the shorthand step of `(*MJImageComponent).calculateDefaultWidth`: `ParseSpacing`, and for what it rejects the
    three-value form by hand -/
def imageShorthand (s : List B) : HRes :=
  match spacing s with
  | .ok _ r _ l => .pair l r
  | .outside => .outside
  | _ =>
    match fields s with
    | [_, b, _] => match parsePixel b with
      | some x => .pair x x
      | none => .outside
    | _ => .zero

/-- where `ParseSpacing` accepts, it is CSS's box rule -/
theorem spacing_css (s : List B) (t r b l : Dec) (h : spacing s = .ok t r b l) :
    ∃ vs, (fields s).map parsePixel = vs.map some ∧ cssSides vs = some (t, r, b, l) := by
  revert h
  fun_cases spacing s with
  -- no `.ok`: empty (1), outside the grammar (3, 5, 7), another count (8)
  | case1 | case3 | case5 | case7 | case8 => exact nofun
  | case2 _ f1 hf x h1 =>
    rintro ⟨⟩
    exact ⟨[t], by rw [hf, List.map_cons, h1]; rfl, rfl⟩
  | case4 _ f1 f2 hf x y h2 h1 =>
    rintro ⟨⟩
    exact ⟨[t, r], by rw [hf, List.map_cons, List.map_cons, h1, h2]; rfl, rfl⟩
  | case6 _ f1 f2 f3 f4 hf x y z w h4 h3 h2 h1 =>    -- `hf`: the four fields, `h4 … h1`: their parses
    rintro ⟨⟩
    exact ⟨[t, r, b, l], by rw [hf, List.map_cons, List.map_cons, List.map_cons, List.map_cons, h1, h2, h3, h4]; rfl, rfl⟩

theorem map_some_cons {α β : Type} {f : α → Option β} {a : α} {l : List α} {vs : List β} (h : (a :: l).map f = vs.map some) :
    ∃ v vs', vs = v :: vs' ∧ f a = some v ∧ l.map f = vs'.map some := by
  cases vs with
  | nil => nomatch h
  | cons v vs' => injection h with h1 h2; exact ⟨v, vs', rfl, h1, h2⟩

section counts
variable {s f1 f2 f3 f4 : List B} {x y z w : Dec} (hs : s ≠ [])
include hs

theorem shorthand_one (hf : fields s = [f1]) (h1 : parsePixel f1 = some x) :
    hspacing s = some (x, x) ∧ imageShorthand s = .pair x x := by
  simp only [hspacing, imageShorthand, spacing, if_neg hs, hf, hsel, h1, and_self]

theorem shorthand_two (hf : fields s = [f1, f2]) (h1 : parsePixel f1 = some x) (h2 : parsePixel f2 = some y) :
    hspacing s = some (y, y) ∧ imageShorthand s = .pair y y := by
  simp only [hspacing, imageShorthand, spacing, if_neg hs, hf, hsel, h1, h2, and_self]

/-- `ParseSpacing` rejects three values; the image then takes the second by hand, as `ParseHorizontalSpacing` does -/
theorem shorthand_three (hf : fields s = [f1, f2, f3]) (h2 : parsePixel f2 = some y) :
    hspacing s = some (y, y) ∧ imageShorthand s = .pair y y := by
  simp only [hspacing, imageShorthand, spacing, if_neg hs, hf, hsel, h2, and_self]

theorem shorthand_four (hf : fields s = [f1, f2, f3, f4]) (h1 : parsePixel f1 = some x) (h2 : parsePixel f2 = some y)
    (h3 : parsePixel f3 = some z) (h4 : parsePixel f4 = some w) :
    hspacing s = some (w, y) ∧ imageShorthand s = .pair w y := by
  simp only [hspacing, imageShorthand, spacing, if_neg hs, hf, hsel, h1, h2, h3, h4, and_self]
end counts

/-- **one horizontal rule for every component** -/
theorem image_shorthand_is_horizontal (s : List B) (vs : List Dec) (hs : s ≠ [])
    (hv : (fields s).map parsePixel = vs.map some) :
    hspacing s = hsel vs ∧
    imageShorthand s = (match hsel vs with | some (l, r) => HRes.pair l r | none => HRes.zero) := by
  -- as many values as fields, then the count decides
  rcases hf : fields s with _ | ⟨f1, _ | ⟨f2, _ | ⟨f3, _ | ⟨f4, _ | ⟨f5, fr⟩⟩⟩⟩⟩ <;> rw [hf] at hv
  · cases List.map_eq_nil_iff.mp hv.symm
    simp only [hspacing, imageShorthand, spacing, if_neg hs, hf, hsel, and_self]
  · obtain ⟨x, _, rfl, h1, hv⟩ := map_some_cons hv
    cases List.map_eq_nil_iff.mp hv.symm
    exact shorthand_one hs hf h1
  · obtain ⟨x, _, rfl, h1, hv⟩ := map_some_cons hv
    obtain ⟨y, _, rfl, h2, hv⟩ := map_some_cons hv
    cases List.map_eq_nil_iff.mp hv.symm
    exact shorthand_two hs hf h1 h2
  · obtain ⟨x, _, rfl, _, hv⟩ := map_some_cons hv
    obtain ⟨y, _, rfl, h2, hv⟩ := map_some_cons hv
    obtain ⟨z, _, rfl, _, hv⟩ := map_some_cons hv
    cases List.map_eq_nil_iff.mp hv.symm
    exact shorthand_three hs hf h2
  · obtain ⟨x, _, rfl, h1, hv⟩ := map_some_cons hv
    obtain ⟨y, _, rfl, h2, hv⟩ := map_some_cons hv
    obtain ⟨z, _, rfl, h3, hv⟩ := map_some_cons hv
    obtain ⟨w, _, rfl, h4, hv⟩ := map_some_cons hv
    cases List.map_eq_nil_iff.mp hv.symm
    exact shorthand_four hs hf h1 h2 h3 h4
  · -- five or more: no shorthand for either
    obtain ⟨_, _, rfl, _, hv⟩ := map_some_cons hv
    obtain ⟨_, _, rfl, _, hv⟩ := map_some_cons hv
    obtain ⟨_, _, rfl, _, hv⟩ := map_some_cons hv
    obtain ⟨_, _, rfl, _, hv⟩ := map_some_cons hv
    obtain ⟨_, _, rfl, _, hv⟩ := map_some_cons hv
    simp only [hspacing, imageShorthand, spacing, if_neg hs, hf, hsel, and_self]

/-- non-vacuity: three values — `ParseSpacing` rejects, the image still gets CSS's pair -/
example : spacing [49, 32, 50, 32, 51] = .reject ∧ imageShorthand [49, 32, 50, 32, 51] = .pair ⟨false, 2, 0⟩ ⟨false, 2, 0⟩ := by decide +kernel

end Gomjml.Lengths
