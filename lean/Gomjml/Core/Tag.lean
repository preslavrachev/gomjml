/-! Byte-exact model of `mjml/html/tag.go`: `HTMLTag` is an ordered attribute list (overwrite on the same name), an ordered
    class list and an ordered style list, rendered attributes → classes → styles; attribute values with `"` written as
    `&quot;`, class and style values unescaped.  Output = the list of `WriteString` calls. -/
namespace Gomjml.Tag

structure HTag where
  name : String
  attrs : List (String × String)
  classes : List String
  styles : List (String × String)
deriving Repr, DecidableEq

def new (name : String) : HTag := ⟨name, [], [], []⟩

/-- `AddAttribute`: overwrite in place when the name exists, else append -/
def setAttr : List (String × String) → String → String → List (String × String)
  | [], n, v => [(n, v)]
  | (m, w) :: r, n, v => if m = n then (m, v) :: r else (m, w) :: setAttr r n v

def addAttr (t : HTag) (n v : String) : HTag := { t with attrs := setAttr t.attrs n v }
def maybeAddAttr (t : HTag) (n : String) (v : Option String) : HTag :=
  match v with
  | some s => if s = "" then t else addAttr t n s
  | none => t
def addClass (t : HTag) (c : String) : HTag := { t with classes := t.classes ++ [c] }
def addStyle (t : HTag) (n v : String) : HTag := { t with styles := t.styles ++ [(n, v)] }
/-- `MaybeAddStyleString` -/
def maybeAddStyle (t : HTag) (n v : String) : HTag := if v = "" then t else addStyle t n v

/-- `EscapeAttrValue`: a double quote in the value is written as `&quot;`, everything else as it is -/
def escQuotes (v : String) : String := String.join (v.toList.map (fun c => if c = '"' then "&quot;" else String.singleton c))

def attrWrites (a : String × String) : List String := [" ", a.1, "=\"", escQuotes a.2, "\""]
def styleWrites (s : String × String) : List String := [s.1, ":", s.2, ";"]

/-- `strings.Join(classes, " ")` -/
def joinSp : List String → String
  | [] => ""
  | [c] => c
  | c :: r => c ++ " " ++ joinSp r

def classWrites (cs : List String) : List String := if cs.isEmpty then [] else [" class=\"", joinSp cs, "\""]
def stylesWrites (ss : List (String × String)) : List String :=
  if ss.isEmpty then [] else [" style=\""] ++ ss.flatMap styleWrites ++ ["\""]

def renderAttributes (t : HTag) : List String :=
  t.attrs.flatMap attrWrites ++ classWrites t.classes ++ stylesWrites t.styles

def renderOpen (t : HTag) : List String := ["<", t.name] ++ renderAttributes t ++ [">"]
def renderClose (t : HTag) : List String := ["</", t.name, ">"]
def renderSelfClosing (t : HTag) : List String := ["<", t.name] ++ renderAttributes t ++ [" />"]

def bytes (ws : List String) : String := String.join ws

theorem renderOpen_eq (t : HTag) :
    renderOpen t = ["<", t.name] ++ t.attrs.flatMap attrWrites ++ classWrites t.classes ++ stylesWrites t.styles ++ [">"] := by
  simp only [renderOpen, renderAttributes, List.append_assoc]

theorem setAttr_fresh (l : List (String × String)) (n v : String) (h : ∀ a ∈ l, a.1 ≠ n) : setAttr l n v = l ++ [(n, v)] := by
  induction l with
  | nil => rfl
  | cons a r ih =>
    obtain ⟨m, w⟩ := a
    have hm : m ≠ n := h (m, w) List.mem_cons_self
    simp only [setAttr, hm, if_false, List.cons_append]
    rw [ih fun b hb => h b (List.mem_cons_of_mem _ hb)]

theorem renderOpen_addAttr_fresh (t : HTag) (n v : String) (h : ∀ a ∈ t.attrs, a.1 ≠ n) :
    renderOpen (addAttr t n v) =
      (["<", t.name] ++ t.attrs.flatMap attrWrites) ++ attrWrites (n, v) ++ (classWrites t.classes ++ stylesWrites t.styles ++ [">"]) ∧
    renderOpen t = (["<", t.name] ++ t.attrs.flatMap attrWrites) ++ (classWrites t.classes ++ stylesWrites t.styles ++ [">"]) := by
  constructor
  · rw [renderOpen_eq, addAttr, setAttr_fresh _ _ _ h, List.flatMap_append]
    simp only [List.flatMap_cons, List.flatMap_nil, List.append_nil, List.append_assoc]
  · rw [renderOpen_eq]; simp only [List.append_assoc]

/-- overwriting an attribute adds none: the list keeps its length -/
theorem setAttr_length (l : List (String × String)) (n v : String) (h : ∃ a ∈ l, a.1 = n) : (setAttr l n v).length = l.length := by
  fun_induction setAttr l n v with
  | case1 => obtain ⟨a, ha, _⟩ := h; cases ha
  | case2 => rfl
  | case3 m w r n v hm ih =>
    obtain ⟨b, hb, hbn⟩ := h
    rcases List.mem_cons.mp hb with rfl | hb
    · exact absurd hbn hm
    · exact congrArg (· + 1) (ih ⟨b, hb, hbn⟩)

/-- styles touch no other group -/
theorem renderOpen_addStyle (t : HTag) (n v : String) :
    renderOpen (addStyle t n v) = ["<", t.name] ++ t.attrs.flatMap attrWrites ++ classWrites t.classes ++ stylesWrites (t.styles ++ [(n, v)]) ++ [">"] :=
  renderOpen_eq (addStyle t n v)

abbrev Rules := List (String × List (String × String))     -- class ↦ ordered declarations (RenderOpts.InlineClassStyles)

def declsFor (rules : Rules) (classes : List String) : List (String × String) :=
  classes.flatMap (fun c => (rules.lookup c).getD [])

/-- `BaseComponent.ApplyInlineStyles`: for every class of the class attribute (in attribute order) that an inline rule
    targets, append that rule's declarations (in declaration order) to the tag's styles -/
def applyInline (rules : Rules) (t : HTag) (classes : List String) : HTag :=
  (declsFor rules classes).foldl (fun t d => addStyle t d.1 d.2) t

theorem foldl_addStyle (ds : List (String × String)) (t : HTag) :
    (ds.foldl (fun t d => addStyle t d.1 d.2) t) = { t with styles := t.styles ++ ds } := by
  induction ds generalizing t with
  | nil => simp
  | cons d r ih =>
    rw [List.foldl_cons, ih, addStyle, List.append_assoc]
    rfl    -- `[(d.1, d.2)] ++ r` is `d :: r`

/-- **inline styles touch nothing but the style list**, and they add exactly the targeted rules' declarations, in order -/
theorem applyInline_eq (rules : Rules) (t : HTag) (classes : List String) :
    applyInline rules t classes = { t with styles := t.styles ++ declsFor rules classes } := foldl_addStyle _ t

/-- … hence the rendered open tag differs only inside ` style="…"`: name, attribute group and class group are write-for-write
    the same -/
theorem renderOpen_applyInline (rules : Rules) (t : HTag) (classes : List String) :
    renderOpen (applyInline rules t classes) =
      ["<", t.name] ++ t.attrs.flatMap attrWrites ++ classWrites t.classes ++ stylesWrites (t.styles ++ declsFor rules classes) ++ [">"] := by
  rw [applyInline_eq]; exact renderOpen_eq _

/-- without a targeted class nothing changes at all -/
theorem applyInline_none (rules : Rules) (t : HTag) (classes : List String) (h : ∀ c ∈ classes, rules.lookup c = none) :
    applyInline rules t classes = t := by
  rw [applyInline_eq, declsFor, List.flatMap_eq_nil_iff.mpr fun c hc => by rw [h c hc]; rfl, List.append_nil]

end Gomjml.Tag
