import Gomjml.Core.Amp
/-! mj-text, from the element's character data to the inner HTML (`mjml/components/text.go`).  On valid UTF-8 (what the XML layer
    delivers) the Go loop over runes touches the four ASCII bytes only, so the Model is on bytes.  Correspondence run: `textflow`
    of `hx C04`. -/
namespace Gomjml.TextFlow
open Gomjml.Amp

def isWs (b : B) : Bool := b == 32 || b == 10 || b == 13 || b == 9

/-- `collapseTextWhitespace`; the flag: the previous byte written was the blank of a run -/
def collapse : Bool → List B → List B
  | _, [] => []
  | last, b :: r =>
    if isWs b then (if last then collapse true r else 32 :: collapse true r)
    else b :: collapse false r

/-- `strings.TrimLeft(s, " ")`, `strings.TrimRight(s, " ")` (the latter is `Lines.trimRightSp` again) -/
def trimLeftSp (s : List B) : List B := s.dropWhile (· == 32)
def trimRightSp (s : List B) : List B := (s.reverse.dropWhile (· == 32)).reverse

def nbspEnt : List B := [38, 35, 120, 65, 48, 59]      -- "&#xA0;"

/-- `restoreHTMLEntities`: `strings.ReplaceAll(text, "\u00a0", "&#xA0;")` -/
def restore : List B → List B
  | 0xC2 :: 0xA0 :: r => nbspEnt ++ restore r
  | b :: r => b :: restore r
  | [] => []

/-- `buildRawInnerHTML` on a single character-data part -/
def textInner (s : List B) : List B := restore (trimRightSp (trimLeftSp (collapse false s)))

/-- the bytes that are not white space, in order -/
def ink (s : List B) : List B := s.filter (fun b => !isWs b)

theorem ink_cons_ws {b : B} (r : List B) (hb : isWs b = true) : ink (b :: r) = ink r :=
  List.filter_cons_of_neg (by rw [hb]; decide)

theorem ink_cons_ink {b : B} (r : List B) (hb : ¬ isWs b = true) : ink (b :: r) = b :: ink r :=
  List.filter_cons_of_pos (by rw [Bool.eq_false_iff.mpr hb]; rfl)

/-- **nothing but white space is touched** -/
theorem collapse_ink : ∀ (s : List B) (last : Bool), ink (collapse last s) = ink s := by
  intro s last
  fun_induction collapse last s
  case case1 => rfl
  case case2 hb ih => rw [ih, ink_cons_ws _ hb]
  case case3 hb _ ih => rw [ink_cons_ws _ (by decide), ih, ink_cons_ws _ hb]
  case case4 hb ih => rw [ink_cons_ink _ hb, ih, ink_cons_ink _ hb]

/-- single blanks only: no tab, no line break, never two blanks in a row -/
def tidyWs : Bool → List B → Bool
  | _, [] => true
  | last, b :: r => if b == 32 then (!last && tidyWs true r) else (!isWs b && tidyWs false r)

theorem sp_no_ink (b : B) (h : (b == 32) = true) : (!isWs b) = false := by rw [eq_of_beq h]; rfl

theorem collapse_tidy : ∀ (s : List B) (last : Bool), tidyWs last (collapse last s) = true := by
  intro s last
  fun_induction collapse last s
  case case1 => rfl
  case case2 ih => exact ih
  -- the blank written for a run stands behind a byte that is none
  case case3 hl ih =>
    cases Bool.eq_false_iff.mpr hl
    show (!false && tidyWs true (collapse true _)) = true
    rw [ih]
    rfl
  case case4 last b r hb ih =>
    have hb' : isWs b = false := Bool.eq_false_iff.mpr hb
    have h32 : (b == 32) = false := Bool.eq_false_iff.mpr fun h => hb ((Bool.not_eq_false' _).mp (sp_no_ink b h))
    show (if (b == 32) = true then _ else (!isWs b && tidyWs false (collapse false r))) = true
    rw [h32, if_neg Bool.false_ne_true, hb', ih]
    rfl

theorem collapse_idem : ∀ (s : List B) (last : Bool), collapse last (collapse last s) = collapse last s := by
  intro s last
  fun_induction collapse last s
  case case1 => rfl
  case case2 ih => exact ih
  -- the blank written for a run is the start of a run of one
  case case3 hl ih => rw [collapse, if_pos (by decide), if_neg hl, ih]
  case case4 hb ih => rw [collapse, if_neg hb, ih]

theorem trim_ink (s : List B) : ink (trimRightSp (trimLeftSp s)) = ink s :=
  (filter_trimRight sp_no_ink _).trans (filter_dropWhile sp_no_ink s)

theorem restore_plain (s : List B) (h : ∀ b ∈ s, b ≠ 0xC2) : restore s = s := by
  fun_induction restore s
  case case1 => exact absurd rfl (h _ List.mem_cons_self)
  case case2 ih => rw [ih fun x hx => h x (List.mem_cons_of_mem _ hx)]
  case case3 => rfl

/-- an ink byte absent from `b` is absent from every `a` with the same ink -/
theorem ne_of_ink_eq {a b : List B} (h : ink a = ink b) {c : B} (hw : isWs c = false) (hb : ∀ x ∈ b, x ≠ c) : ∀ x ∈ a, x ≠ c := fun x hx hc => by
  have hi : x ∈ ink a := List.mem_filter.mpr ⟨hx, by rw [hc, hw]; rfl⟩
  rw [h] at hi
  exact hb x (List.mem_filter.mp hi).1 hc

/-- **the inner HTML of an mj-text keeps every byte of the author's text that is not white space, in order** (texts
    without the byte 0xC2, which begins the no-break space and every character U+0080–U+00BF) -/
theorem textInner_ink (s : List B) (h : ∀ b ∈ s, b ≠ 0xC2) : ink (textInner s) = ink s := by
  unfold textInner
  -- 0xC2 is ink: the collapsed, trimmed text has none either, so `restore` is the identity
  rw [restore_plain _ (ne_of_ink_eq ((trim_ink _).trans (collapse_ink s false)) rfl h), trim_ink, collapse_ink]

end Gomjml.TextFlow
