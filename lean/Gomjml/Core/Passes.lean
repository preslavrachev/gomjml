import Gomjml.Core.Amp
import Gomjml.Gen.Parser
/-! Byte-exact models of the parser's textual pre-passes (`parser/parser.go`): `stripNonMSOComments`, `preprocessHTMLEntities`
    and the CDATA delimiters of `wrapMJTextContent` (the pass itself is `Lines.wrap`). -/
namespace Gomjml.Passes
open Gomjml.Amp

def bytesOf (s : String) : List B := s.toUTF8.toList

/-! ### `isValidEntity`: a name of the regenerated table, or a character reference -/

def isDigit (b : B) : Bool := b ≥ 48 && b ≤ 57
def isHex (b : B) : Bool := isDigit b || (b ≥ 97 && b ≤ 102) || (b ≥ 65 && b ≤ 70)

def validEntity (names : List (List B)) (s : List B) : Bool :=
  match s with
  | [] => false
  | 35 :: rest =>                                  -- '#'
    match rest with
    | [] => false
    | x :: hs => if x == 120 || x == 88 then !hs.isEmpty && hs.all isHex else (x :: hs).all isDigit   -- 'x' | 'X'
  | _ => names.contains s

def entTable : Ent := ⟨validEntity Gomjml.Gen.Parser.namedEntitiesB⟩

/-- `escapeAttributeAmpersands` -/
def escapeAmp (s : List B) : List B := esc entTable false 0 0 0 s

/-! ### `strings.ReplaceAll` (non-empty `old`, non-overlapping, left to right) -/

def replaceAll (old new : List B) (s : List B) : List B :=
  if hold : old = [] then s else
  match s with
  | [] => []
  | b :: rest =>
    if old.isPrefixOf (b :: rest) then new ++ replaceAll old new ((b :: rest).drop old.length)
    else b :: replaceAll old new rest
termination_by s.length
decreasing_by
  · have : 0 < old.length := by cases old <;> simp_all
    simp only [List.length_drop, List.length_cons]; omega
  · simp

theorem isPrefixOf_cons_ne {c b : B} (r rest : List B) (h : b ≠ c) : (c :: r).isPrefixOf (b :: rest) = false := by
  rw [List.isPrefixOf, beq_false_of_ne (Ne.symm h), Bool.false_and]

theorem replaceAll_hit {old new s : List B} (ho : old ≠ []) (h : old.isPrefixOf s = true) :
    replaceAll old new s = new ++ replaceAll old new (s.drop old.length) := by
  match s, old, ho, h with
  | [], _ :: _, _, h => exact absurd h Bool.false_ne_true
  | b :: rest, old, ho, h =>
    conv => lhs; unfold replaceAll
    simp only [ho, dite_false, h, if_true]

theorem replaceAll_no_first (old new : List B) (c : B) (r : List B) (ho : old = c :: r) :
    ∀ (s : List B), (∀ b ∈ s, b ≠ c) → replaceAll old new s = s := by
  intro s h
  fun_induction replaceAll old new s
  case case1 | case2 => rfl
  case case3 _ b rest hp _ =>
    rw [ho, isPrefixOf_cons_ne r rest (h b List.mem_cons_self)] at hp
    exact absurd hp Bool.false_ne_true
  case case4 ih => rw [ih fun x hx => h x (List.mem_cons_of_mem _ hx)]

theorem replaceAll_prefix (old new rest : List B) (h : old ≠ []) :
    replaceAll old new (old ++ rest) = new ++ replaceAll old new rest := by
  rw [replaceAll_hit h (isPrefixOf_append_self ..), List.drop_left]

/-- a replacement whose two sides look the same through `List.filter q` keeps what it shows -/
theorem replaceAll_filter {q : B → Bool} {old new : List B} (h : old.filter q = new.filter q) (s : List B) :
    (replaceAll old new s).filter q = s.filter q := by
  fun_induction replaceAll old new s with
  | case1 s hold => rfl
  | case2 hold => rfl
  | case3 hold b rest hp ih => rw [List.filter_append, ih, ← h, ← List.filter_append, prefix_split old _ hp]
  | case4 hold b rest hp ih => exact filter_cons_congr b ih

def cdStart : List B := [60, 33, 91, 67, 68, 65, 84, 65, 91]   -- "<![CDATA["
def cdEnd : List B := [93, 93, 62]                              -- "]]>"
def cdEndSafe : List B := [93, 93, 93, 93, 62] ++ cdStart ++ [62]  -- "]]]]><![CDATA[>"
def cmStart : List B := [60, 33, 45, 45]                        -- "<!--"
def cmEnd : List B := [45, 45, 62]                              -- "-->"

def afterPat (pat : List B) : List B → Option (List B)
  | [] => none
  | b :: r => if pat.isPrefixOf (b :: r) then some ((b :: r).drop pat.length) else afterPat pat r

theorem afterPat_split (pat s r : List B) (h : afterPat pat s = some r) : ∃ pre, s = pre ++ pat ++ r := by
  fun_induction afterPat pat s
  case case1 => cases h
  case case2 hp =>
    cases h
    exact ⟨[], (prefix_split pat _ hp).symm⟩
  case case3 b t _ ih =>
    obtain ⟨pre, hpre⟩ := ih h
    exact ⟨b :: pre, congrArg (b :: ·) hpre⟩

theorem afterPat_length (pat : List B) : ∀ (s r : List B), afterPat pat s = some r → r.length ≤ s.length := by
  intro s r h
  obtain ⟨pre, rfl⟩ := afterPat_split pat s r h
  rw [List.length_append]
  exact Nat.le_add_left _ _

theorem afterPat_body (pat : List B) (hpat : pat ≠ []) : ∀ (body rest : List B), endsOnlyAt pat body →
    afterPat pat (body ++ pat ++ rest) = some rest
  | [], rest, _ => by
    match pat, hpat with
    | c :: p, _ =>
      have hp : (c :: p).isPrefixOf (c :: (p ++ rest)) = true := isPrefixOf_append_self (c :: p) rest
      show afterPat (c :: p) (c :: (p ++ rest)) = some rest
      rw [afterPat, if_pos hp]
      exact congrArg some List.drop_left
  | x :: t, rest, h => by
    obtain ⟨h0, ht⟩ := (endsOnlyAt_cons_iff rest).mp h
    show afterPat pat (x :: (t ++ pat ++ rest)) = some rest
    rw [afterPat, h0]
    exact afterPat_body pat hpat t rest ht

/-- `nonMarkupEnd`, as a length: the comment or CDATA section at the head of `s`, to the end of the text when it does not
    end; 0 when none starts there -/
def nonMarkupLen (s : List B) : Nat :=
  if cmStart.isPrefixOf s then
    match afterPat cmEnd (s.drop cmStart.length) with
    | some r => s.length - r.length
    | none => s.length
  else if cdStart.isPrefixOf s then
    match afterPat cdEnd (s.drop cdStart.length) with
    | some r => s.length - r.length
    | none => s.length
  else 0

theorem nonMarkupLen_le (s : List B) : nonMarkupLen s ≤ s.length := by
  unfold nonMarkupLen
  split
  · split
    · exact Nat.sub_le _ _
    · exact Nat.le_refl _
  · split
    · split
      · exact Nat.sub_le _ _
      · exact Nat.le_refl _
    · exact Nat.zero_le _

theorem nonMarkupLen_head (s : List B) (h : s.head? ≠ some 60) : nonMarkupLen s = 0 := by
  match s with
  | [] => rfl
  | b :: r =>
    have hb : b ≠ 60 := fun e => h (e ▸ rfl)
    have h1 : cmStart.isPrefixOf (b :: r) = false := isPrefixOf_cons_ne _ r hb
    have h2 : cdStart.isPrefixOf (b :: r) = false := isPrefixOf_cons_ne _ r hb
    rw [nonMarkupLen, h1, h2]
    rfl

/-- `replaceInMarkup`: `strings.ReplaceAll` that copies comments and CDATA sections as they are -/
def replaceAllM (old new : List B) (s : List B) : List B :=
  if hold : old = [] then s else
  match s with
  | [] => []
  | b :: rest =>
    if hk : 0 < nonMarkupLen (b :: rest) then
      (b :: rest).take (nonMarkupLen (b :: rest)) ++ replaceAllM old new ((b :: rest).drop (nonMarkupLen (b :: rest)))
    else if old.isPrefixOf (b :: rest) then new ++ replaceAllM old new ((b :: rest).drop old.length)
    else b :: replaceAllM old new rest
termination_by s.length
decreasing_by
  · simp only [List.length_drop, List.length_cons]; omega
  · have : 0 < old.length := by cases old <;> simp_all
    simp only [List.length_drop, List.length_cons]; omega
  · simp

/-- `preprocessHTMLEntities` (parser.go:181) -/
def entities (s : List B) : List B :=
  Gomjml.Gen.Parser.entityStepsB.foldl (fun acc st => replaceAllM st.1 st.2 acc) (escapeAmp s)

theorem replaceAllM_block (old new s : List B) (ho : old ≠ []) (hk : 0 < nonMarkupLen s) :
    replaceAllM old new s = s.take (nonMarkupLen s) ++ replaceAllM old new (s.drop (nonMarkupLen s)) := by
  match s, hk with
  | b :: rest, hk =>
    conv => lhs; unfold replaceAllM
    simp only [ho, dite_false, hk, dite_true]

theorem replaceAllM_hit {old new s : List B} (ho : old ≠ []) (hk : ¬ 0 < nonMarkupLen s) (h : old.isPrefixOf s = true) :
    replaceAllM old new s = new ++ replaceAllM old new (s.drop old.length) := by
  match s, old, ho, hk, h with
  | [], _ :: _, _, _, h => exact absurd h Bool.false_ne_true
  | b :: rest, old, ho, hk, h =>
    conv => lhs; unfold replaceAllM
    simp only [ho, dite_false, hk, h, if_true]

theorem replaceAllM_no_first (old new : List B) (c : B) (ho : old.head? = some c) (s : List B)
    (h : ∀ b ∈ s, b ≠ c) : replaceAllM old new s = s := by
  obtain ⟨r, rfl⟩ := List.head?_eq_some_iff.mp ho
  fun_induction replaceAllM (c :: r) new s
  case case1 | case2 => rfl
  case case3 ih => rw [ih fun x hx => h x (List.mem_of_mem_drop hx), List.take_append_drop]
  case case4 _ b rest _ hp _ =>
    rw [isPrefixOf_cons_ne r rest (h b List.mem_cons_self)] at hp
    exact absurd hp Bool.false_ne_true
  case case5 ih => rw [ih fun x hx => h x (List.mem_cons_of_mem _ hx)]

/-- **a named entity is read like its character**: the step writes the character's bytes and goes on behind the entity -/
theorem replaceAllM_prefix (old new rest : List B) (h : old.head? = some amp) :
    replaceAllM old new (old ++ rest) = new ++ replaceAllM old new rest := by
  match old, h with
  | b :: r, h =>
    have hk : ¬ 0 < nonMarkupLen (b :: r ++ rest) := by
      rw [nonMarkupLen_head _ (by cases h; exact (by decide : some amp ≠ some (60 : B)))]
      exact Nat.lt_irrefl 0
    rw [replaceAllM_hit (List.cons_ne_nil b r) hk (isPrefixOf_append_self ..), List.drop_left]

theorem steps_start_with_amp :
    ∀ st ∈ Gomjml.Gen.Parser.entityStepsB, st.1.head? = some amp := by decide

/-- **strict documents pass unchanged**: a text without any `&` -/
theorem entities_noamp (s : List B) (h : ∀ b ∈ s, b ≠ amp) : entities s = s := by
  unfold entities
  rw [show escapeAmp s = s from esc_noamp _ s false 0 0 0 h]
  exact List.foldlRecOn (motive := (· = s)) _ _ rfl fun _ hacc st hst =>
    hacc ▸ replaceAllM_no_first st.1 st.2 amp (steps_start_with_amp st hst) s h

/-! ### `stripNonMSOComments` -/

def lower (b : B) : B := if b ≥ 65 && b ≤ 90 then b + 32 else b
def isWs (b : B) : Bool := b == 32 || b == 9 || b == 13 || b == 10
def trimLeft : List B → List B
  | [] => []
  | b :: r => if isWs b then trimLeft r else b :: r

def mjmlNeedle : List B := [60, 109, 106, 109, 108]        -- "<mjml"
def startsCI (needle s : List B) : Bool := needle.length ≤ s.length && (s.take needle.length).map lower == needle

def cOpen : List B := [60, 33, 45, 45]      -- "<!--"  (`cmStart` / `cmEnd` again; `cClose` is also `Amp.cmClose`)
def cClose : List B := [45, 45, 62]         -- "-->"

def afterClose : List B → Option (List B)
  | [] => none
  | b :: r => if cClose.isPrefixOf (b :: r) then some ((b :: r).drop 3) else afterClose r

theorem afterClose_eq : ∀ (s : List B), afterClose s = afterPat cClose s
  | [] => rfl
  | b :: r => by
    rw [afterClose, afterPat, afterClose_eq r]
    rfl

theorem afterClose_split (s r : List B) (h : afterClose s = some r) : ∃ pre, s = pre ++ cClose ++ r :=
  afterPat_split cClose s r (afterClose_eq s ▸ h)

theorem afterClose_length (s r : List B) (h : afterClose s = some r) : r.length ≤ s.length :=
  afterPat_length cClose s r (afterClose_eq s ▸ h)

/-- `endsOnlyAt cClose body`, by definition -/
def closesAtEnd (body : List B) : Prop := ∀ k, k < body.length → cClose.isPrefixOf ((body ++ cClose).drop k) = false

theorem afterClose_body (body rest : List B) (h : closesAtEnd body) : afterClose (body ++ cClose ++ rest) = some rest :=
  (afterClose_eq _).trans (afterPat_body cClose (List.cons_ne_nil _ _) body rest h)

/-- `findMjmlTagIndex`: index of the first case-insensitive `<mjml` outside comments; a comment is skipped as a whole, one that
    does not end means there is no root.  (Go tests `<!--` first, the Model `<mjml`: `cOpen_not_root`.) -/
def rootIdx (s : List B) : Option Nat :=
  match s with
  | [] => none
  | b :: r =>
    if startsCI mjmlNeedle (b :: r) then some 0
    else if cOpen.isPrefixOf (b :: r) then
      match h : afterClose ((b :: r).drop 4) with
      | some rest => (rootIdx rest).map (· + ((b :: r).length - rest.length))
      | none => none
    else (rootIdx r).map (· + 1)
termination_by s.length
decreasing_by
  · have := afterClose_length _ _ h
    simp only [List.length_drop, List.length_cons] at this ⊢; omega
  · simp

/-- (what stands in front of the root element, the rest from its `<` on) -/
def splitAtRoot (s : List B) : Option (List B × List B) := (rootIdx s).map (fun i => (s.take i, s.drop i))

/-- a comment that does not end takes the rest of the prefix with it -/
def dropComments (s : List B) : List B :=
  match s with
  | [] => []
  | b :: r =>
    if cOpen.isPrefixOf (b :: r) then
      match h : afterClose ((b :: r).drop 4) with
      | some rest => dropComments rest
      | none => []
    else b :: dropComments r
termination_by s.length
decreasing_by
  · have := afterClose_length _ _ h
    simp only [List.length_drop, List.length_cons] at this ⊢; omega
  · simp

theorem isWs_cases (b : B) (hb : isWs b = true) : ((b = 32 ∨ b = 9) ∨ b = 13) ∨ b = 10 := by
  unfold isWs at hb
  simpa [Bool.or_eq_true] using hb

/-- `startsCI` and `isPrefixOf` unfold to a conjunction whose parts compare the first bytes -/
theorem startsCI_head (b : B) (r : List B) (h : startsCI mjmlNeedle (b :: r) = true) :
    lower b = 60 ∧ (r.take 4).map lower = [109, 106, 109, 108] :=
  List.cons.inj (eq_of_beq ((Bool.and_eq_true _ _).mp h).2)

theorem cOpen_head (b : B) (r : List B) (h : cOpen.isPrefixOf (b :: r) = true) : b = 60 :=
  (eq_of_beq ((Bool.and_eq_true _ _).mp h).1).symm

theorem ws_plain (b : B) (r : List B) (hb : isWs b = true) :
    startsCI mjmlNeedle (b :: r) = false ∧ cOpen.isPrefixOf (b :: r) = false := by
  have hne : lower b ≠ 60 ∧ b ≠ 60 := by rcases isWs_cases b hb with ((rfl | rfl) | rfl) | rfl <;> decide
  exact ⟨Bool.eq_false_iff.mpr fun h => hne.1 (startsCI_head b r h).1, Bool.eq_false_iff.mpr fun h => hne.2 (cOpen_head b r h)⟩

theorem rootIdx_root : ∀ (s : List B), startsCI mjmlNeedle s = true → rootIdx s = some 0
  | [], h => absurd h Bool.false_ne_true
  | b :: r, h => by rw [rootIdx, if_pos h]

theorem rootIdx_ws (b : B) (r : List B) (hb : isWs b = true) : rootIdx (b :: r) = (rootIdx r).map (· + 1) := by
  rw [rootIdx]
  simp only [ws_plain b r hb, Bool.false_eq_true, if_false]

theorem dropComments_ws (b : B) (r : List B) (hb : isWs b = true) : dropComments (b :: r) = b :: dropComments r := by
  rw [dropComments]
  simp only [ws_plain b r hb, Bool.false_eq_true, if_false]

/-- `stripNonMSOComments` (parser.go:377); without a root element the text stays -/
def strip (s : List B) : List B :=
  match splitAtRoot s with
  | none => s
  | some (p, root) => trimLeft (dropComments p) ++ root

/-- the second byte differs -/
theorem cOpen_not_root (s : List B) (hco : cOpen.isPrefixOf s = true) : startsCI mjmlNeedle s = false := by
  rw [← prefix_split cOpen s hco]
  exact Bool.eq_false_iff.mpr fun h => absurd (List.cons.inj (startsCI_head _ _ h).2).1 (by decide)

theorem rootIdx_cOpen (s rest : List B) (hco : cOpen.isPrefixOf s = true) (h : afterClose (s.drop 4) = some rest) :
    rootIdx s = (rootIdx rest).map (· + (s.length - rest.length)) := by
  fun_cases rootIdx s
  case case1 => cases hco
  case case2 hst =>
    rw [cOpen_not_root _ hco] at hst
    cases hst
  -- the `afterClose` result the definition goes on with is `rest`
  case case3 heq =>
    cases h.symm.trans heq
    rfl
  case case4 heq => cases h.symm.trans heq
  case case5 hno => exact absurd hco hno

theorem dropComments_cOpen (s rest : List B) (hco : cOpen.isPrefixOf s = true) (h : afterClose (s.drop 4) = some rest) :
    dropComments s = dropComments rest := by
  fun_cases dropComments s
  case case1 => cases hco
  case case2 heq =>
    cases h.symm.trans heq
    rfl
  case case3 heq => cases h.symm.trans heq
  case case4 hno => exact absurd hco hno

theorem rootIdx_comment (body rest : List B) (h : closesAtEnd body) :
    rootIdx (cOpen ++ body ++ cClose ++ rest) = (rootIdx rest).map (· + (cOpen ++ body ++ cClose).length) := by
  rw [rootIdx_cOpen (cOpen ++ body ++ cClose ++ rest) rest rfl (afterClose_body body rest h), List.length_append (bs := rest),
    Nat.add_sub_cancel]

theorem dropComments_comment (body rest : List B) (h : closesAtEnd body) :
    dropComments (cOpen ++ body ++ cClose ++ rest) = dropComments rest :=
  dropComments_cOpen _ rest rfl (afterClose_body body rest h)

/-- white space and comments, each ended by its first `-->` -/
inductive Prolog : List B → Prop
  | nil : Prolog []
  | ws (b : B) (p : List B) : isWs b = true → Prolog p → Prolog (b :: p)
  | comment (body p : List B) : closesAtEnd body → Prolog p → Prolog (cOpen ++ body ++ cClose ++ p)

theorem prolog_of_ws : ∀ (p : List B), (∀ b ∈ p, isWs b = true) → Prolog p
  | [], _ => .nil
  | b :: r, h => .ws b r (h b (List.mem_cons_self ..)) (prolog_of_ws r fun x hx => h x (List.mem_cons_of_mem _ hx))

theorem rootIdx_prolog (root : List B) (hr : startsCI mjmlNeedle root = true) :
    ∀ (p : List B), Prolog p → rootIdx (p ++ root) = some p.length := by
  intro p hp
  induction hp with
  | nil => exact rootIdx_root root hr
  | ws b r hb _ ih =>
    rw [List.cons_append, rootIdx_ws b _ hb, ih]
    rfl
  | comment body r hbody _ ih =>
    rw [List.append_assoc _ r root, rootIdx_comment body _ hbody, ih, List.length_append (bs := r), Nat.add_comm]
    rfl

theorem dropComments_prolog : ∀ (p : List B), Prolog p → trimLeft (dropComments p) = [] := by
  intro p hp
  induction hp with
  | nil =>
    rw [dropComments]
    rfl
  | ws b r hb _ ih =>
    rw [dropComments_ws b r hb, trimLeft, if_pos hb]
    exact ih
  | comment body r hbody _ ih =>
    rw [dropComments_comment body r hbody]
    exact ih

/-- **comments and white space in front of the root element are ignored**, whatever the comments contain -/
theorem strip_prolog (p root : List B) (hp : Prolog p) (hr : startsCI mjmlNeedle root = true) :
    strip (p ++ root) = root := by
  unfold strip splitAtRoot
  rw [rootIdx_prolog root hr p hp]
  show trimLeft (dropComments ((p ++ root).take p.length)) ++ (p ++ root).drop p.length = root
  rw [List.take_left, List.drop_left, dropComments_prolog p hp]
  rfl

def closesAtEndB (body : List B) : Bool := (List.range body.length).all (fun k => !(cClose.isPrefixOf ((body ++ cClose).drop k)))

theorem closesAtEnd_of_B (body : List B) (h : closesAtEndB body = true) : closesAtEnd body :=
  endsOnlyAt_of_all h

/-- `<!--<mjml>-->` + newline, `<!--> note -->`, `<!---> x -->`, `<!-- don't -->` are prologs -/
example : Prolog ([60, 33, 45, 45] ++ [60, 109, 106, 109, 108, 62] ++ [45, 45, 62] ++ ([10] ++ [])) :=
  .comment [60, 109, 106, 109, 108, 62] _ (closesAtEnd_of_B _ (by decide)) (.ws 10 [] (by decide) .nil)
example : Prolog ([60, 33, 45, 45] ++ [62, 32, 110] ++ [45, 45, 62] ++ []) :=
  .comment [62, 32, 110] _ (closesAtEnd_of_B _ (by decide)) .nil
example : Prolog ([60, 33, 45, 45] ++ [45, 62, 32, 120, 32] ++ [45, 45, 62] ++ []) :=
  .comment [45, 62, 32, 120, 32] _ (closesAtEnd_of_B _ (by decide)) .nil
example : Prolog ([60, 33, 45, 45] ++ [32, 100, 111, 110, 39, 116, 32] ++ [45, 45, 62] ++ []) :=
  .comment [32, 100, 111, 110, 39, 116, 32] _ (closesAtEnd_of_B _ (by decide)) .nil

/-- `<!--<mjml>--><mjml>`: the root is the second `<mjml` -/
example : strip ([60, 33, 45, 45] ++ [60, 109, 106, 109, 108, 62] ++ [45, 45, 62] ++ [60, 109, 106, 109, 108, 62]) = [60, 109, 106, 109, 108, 62] :=
  strip_prolog _ _ (.comment [60, 109, 106, 109, 108, 62] [] (closesAtEnd_of_B _ (by decide)) .nil) (by decide)

end Gomjml.Passes
