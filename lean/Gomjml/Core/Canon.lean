import Gomjml.Core.Perm
/-! Canonical form of HTML tokens for the C01 comparison: what "equivalent to the reference" is meant to ignore.

  * attribute order             — attributes are sorted by name (`sortAttrs`)
  * order of independent style declarations — `normDecls`, meant as the lexicographic normal form of the declaration list
    where "same property, or one is a shorthand of the other" fixes the order (of this only `normDecls_perm` is proved)
  * insignificant whitespace    — done on strings by the driver (`Driver/RefP.lean`)

Proved: both forms are permutations of their input; `sortAttrs` does not depend on the order of distinct attributes. -/
namespace Gomjml.Canon

abbrev Attr := String × String

def insertAttr (a : Attr) : List Attr → List Attr
  | [] => [a]
  | b :: r => if a.1 ≤ b.1 then a :: b :: r else b :: insertAttr a r

/-- stable insertion sort by attribute name -/
def sortAttrs : List Attr → List Attr
  | [] => []
  | a :: r => insertAttr a (sortAttrs r)

theorem insertAttr_perm (a : Attr) : ∀ l, (insertAttr a l).Perm (a :: l)
  | [] => List.Perm.refl _
  | b :: r => by
    unfold insertAttr
    split
    · exact List.Perm.refl _
    · exact ((insertAttr_perm a r).cons b).trans (List.Perm.swap a b r)

theorem sortAttrs_perm : ∀ l, (sortAttrs l).Perm l
  | [] => List.Perm.refl _
  | a :: r => (insertAttr_perm a (sortAttrs r)).trans ((sortAttrs_perm r).cons a)

def Sorted (l : List Attr) : Prop := l.Pairwise (fun x y => x.1 ≤ y.1)

theorem insertAttr_sorted (a : Attr) : ∀ l, Sorted l → Sorted (insertAttr a l)
  | [], _ => List.pairwise_singleton _ _
  | b :: r, h => by
    obtain ⟨hb, hr⟩ := List.pairwise_cons.mp h
    unfold insertAttr
    split
    · next hab => exact List.pairwise_cons.mpr ⟨List.forall_mem_cons.mpr ⟨hab, fun y hy => String.le_trans hab (hb y hy)⟩, h⟩
    · next hab =>
      refine List.pairwise_cons.mpr ⟨fun y hy => ?_, insertAttr_sorted a r hr⟩
      -- `y` is `a` or from `r`
      rcases List.mem_cons.mp ((insertAttr_perm a r).mem_iff.mp hy) with rfl | hy
      · exact (String.le_total _ _).resolve_left hab
      · exact hb y hy

theorem sortAttrs_sorted : ∀ l, Sorted (sortAttrs l)
  | [] => List.Pairwise.nil
  | a :: r => insertAttr_sorted a _ (sortAttrs_sorted r)

theorem sorted_perm_eq (l₁ l₂ : List Attr) (h1 : Sorted l₁) (h2 : Sorted l₂) (hp : l₁.Perm l₂)
    (hn : (l₁.map (·.1)).Nodup) : l₁ = l₂ :=
  List.Perm.eq_of_pairwise (fun a b ha hb hab hba =>
    Keys.eq_of_key_eq (·.1) l₁ hn a ha b (hp.mem_iff.mpr hb) (String.le_antisymm hab hba)) h1 h2 hp

theorem sortAttrs_order_irrelevant (l₁ l₂ : List Attr) (hp : l₁.Perm l₂) (hn : (l₁.map (·.1)).Nodup) :
    sortAttrs l₁ = sortAttrs l₂ := by
  apply sorted_perm_eq _ _ (sortAttrs_sorted l₁) (sortAttrs_sorted l₂)
  · exact (sortAttrs_perm l₁).trans (hp.trans (sortAttrs_perm l₂).symm)
  · exact ((sortAttrs_perm l₁).map (·.1)).nodup_iff.mpr hn

/-- `a` is `b` or a shorthand of `b` (`padding` / `padding-top`); `border-radius` is not set by `border` -/
def shorthandOf (a b : String) : Bool :=
  a == b || ((a ++ "-").isPrefixOf b && !(a == "border" && b.startsWith "border-radius"))

/-- two declarations whose relative order matters -/
def dep (a b : Attr) : Bool := shorthandOf a.1 b.1 || shorthandOf b.1 a.1

def declLt (a b : Attr) : Bool := a.1 < b.1 || (a.1 == b.1 && a.2 < b.2)

/-- is `d` free to move to the front past everything in `before`? -/
def free (before : List Attr) (d : Attr) : Bool := before.all (fun b => !dep b d)

/-- the smallest free declaration of the list: `(picked, the list without it)`; `seen` = the part already walked over, reversed -/
def pickMin : List Attr → List Attr → Option (Attr × List Attr) → Option (Attr × List Attr)
  | _, [], best => best
  | seen, d :: r, best =>
    let best' :=
      if free seen d then
        match best with
        | none => some (d, seen.reverse ++ r)
        | some (b, l) => if declLt d b then some (d, seen.reverse ++ r) else some (b, l)
      else best
    pickMin (d :: seen) r best'

/-- lexicographic normal form: repeatedly take the smallest declaration that no earlier remaining declaration depends on -/
def normDeclsAux : Nat → List Attr → List Attr
  | 0, l => l
  | fuel + 1, l =>
    match pickMin [] l none with
    | none => l
    | some (d, rest) => d :: normDeclsAux fuel rest

def normDecls (l : List Attr) : List Attr := normDeclsAux l.length l

/-- `pickMin` returns an element together with the list it was removed from -/
theorem pickMin_perm (l : List Attr) : ∀ (seen r : List Attr) (best : Option (Attr × List Attr)), seen.reverse ++ r = l →
    (∀ b t, best = some (b, t) → (b :: t).Perm l) → ∀ d t, pickMin seen r best = some (d, t) → (d :: t).Perm l
  | seen, [], best, _, hb, d, t, h => hb d t h
  | seen, x :: r, best, hl, hb, d, t, h => by
    unfold pickMin at h
    refine pickMin_perm l (x :: seen) r _ (by rw [← hl, List.reverse_cons, List.append_assoc]; rfl) (fun b t' hbest => ?_) d t h
    -- the new best is `x` with everything around it (`hnew`), or the old best
    have hnew : (x :: (seen.reverse ++ r)).Perm l := hl ▸ List.perm_middle.symm
    split at hbest
    · split at hbest                            -- `x` is free
      · cases hbest; exact hnew                 -- no best yet
      · split at hbest
        · cases hbest; exact hnew               -- `x` is smaller than the best
        · cases hbest; exact hb _ _ rfl
    · exact hb b t' hbest                       -- `x` is not free

theorem normDeclsAux_perm : ∀ (fuel : Nat) (l : List Attr), (normDeclsAux fuel l).Perm l
  | 0, l => List.Perm.refl _
  | fuel + 1, l => by
    rw [normDeclsAux]
    cases h : pickMin [] l none with
    | none => exact List.Perm.refl _
    | some p => exact ((normDeclsAux_perm fuel p.2).cons p.1).trans (pickMin_perm l [] l none rfl nofun p.1 p.2 h)

theorem normDecls_perm (l : List Attr) : (normDecls l).Perm l := normDeclsAux_perm _ l

end Gomjml.Canon
