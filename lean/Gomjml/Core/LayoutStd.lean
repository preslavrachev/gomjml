import Gomjml.Core.LayoutSpec
/-! The standard client's half of the layout model: `runS` is `run` without Outlook's stack (inside an Outlook conditional tags
    are passed over, so a close needs no match there).  That every body is accepted (`C02_C03_all`) and Outlook's view
    (`run_mso`) do not need it.  The machine and its lemmas are kept by name, and `wf_spec` goes through them (`run_runS`,
    `runS_sim`) rather than through two more lemmas `StepTok.std` / `StepTok.vis` beside `StepTok.mso`. -/
namespace Gomjml.Layout
open Tok Tag Gomjml.Spec

structure SS where
  mso : Bool
  std : List Tag
deriving DecidableEq, Repr

def stepS (s : SS) : Tok → Option SS
  | co => if s.mso then none else some { s with mso := true }
  | cc => if s.mso then some { s with mso := false } else none
  | t => if s.mso then none else some s
  | v n => if !s.mso && n.outlookOnly then none else some s
  | o n => if s.mso then some s else if n.outlookOnly then none else some { s with std := n :: s.std }
  | c n =>
    if s.mso then some s
    else match s.std with
      | [] => none
      | k :: sr => if k ≠ n then none else some { s with std := sr }

def runS (s : SS) : List Tok → Option SS
  | [] => some s
  | x :: xs => (stepS s x).bind (fun s' => runS s' xs)

theorem runS_append (s : SS) (xs ys : List Tok) : runS s (xs ++ ys) = (runS s xs).bind (fun s' => runS s' ys) := by
  induction xs generalizing s with
  | nil => rfl
  | cons x xs ih => cases h : stepS s x <;> simp [runS, h, ih]

theorem runS_cons_eq_some {s r : SS} {x : Tok} {xs : List Tok} :
    runS s (x :: xs) = some r ↔ ∃ s1, stepS s x = some s1 ∧ runS s1 xs = some r := Option.bind_eq_some_iff

/-- the successful steps of the standard machine: those of `StepTok` without Outlook's stack -/
inductive StepS : SS → Tok → SS → Prop
  | co {s} : StepS ⟨false, s⟩ co ⟨true, s⟩
  | cc {s} : StepS ⟨true, s⟩ cc ⟨false, s⟩
  | t {s} : StepS ⟨false, s⟩ t ⟨false, s⟩
  | v {m s n} (h : m = false → n.outlookOnly = false) : StepS ⟨m, s⟩ (v n) ⟨m, s⟩
  | oMso {s n} : StepS ⟨true, s⟩ (o n) ⟨true, s⟩
  | oStd {s n} (h : n.outlookOnly = false) : StepS ⟨false, s⟩ (o n) ⟨false, n :: s⟩
  | cMso {s n} : StepS ⟨true, s⟩ (c n) ⟨true, s⟩
  | cStd {s n} : StepS ⟨false, n :: s⟩ (c n) ⟨false, s⟩

theorem stepS_inv {s r : SS} {x : Tok} (h : stepS s x = some r) : StepS s x r := by
  obtain ⟨m, sd⟩ := s
  cases x with
  | c n =>
    cases m
    · cases sd with
      | nil => simp [stepS] at h
      | cons k sr =>
        simp [stepS] at h  -- as in `stepTok_inv`
        obtain ⟨rfl, rfl⟩ := h
        exact .cStd
    · simp [stepS] at h
      subst h
      exact .cMso
  | o n =>
    cases m <;> simp [stepS] at h
    · obtain ⟨hn, rfl⟩ := h
      exact .oStd hn
    · subst h
      exact .oMso
  | v n =>
    simp [stepS] at h
    obtain ⟨hn, rfl⟩ := h
    exact .v hn
  | co =>
    cases m <;> simp [stepS] at h
    subst h
    exact .co
  | cc =>
    cases m <;> simp [stepS] at h
    subst h
    exact .cc
  | t =>
    cases m <;> simp [stepS] at h
    subst h
    exact .t

theorem stepS_frame {x : Tok} {s r : SS} (sd : List Tag) (h : stepS s x = some r) :
    stepS ⟨s.mso, s.std ++ sd⟩ x = some ⟨r.mso, r.std ++ sd⟩ := by
  cases stepS_inv h with
  | v hn => simpa [stepS] using hn
  | oStd hn => simp [stepS, hn]
  | _ => simp [stepS]

theorem runS_frame (sd : List Tag) : ∀ {xs : List Tok} {s r : SS},
    runS s xs = some r → runS ⟨s.mso, s.std ++ sd⟩ xs = some ⟨r.mso, r.std ++ sd⟩
  | [], _, _, h => by cases h; rfl
  | _ :: _, _, _, h => by
    obtain ⟨_, hs, h⟩ := runS_cons_eq_some.mp h
    exact runS_cons_eq_some.mpr ⟨_, stepS_frame sd hs, runS_frame sd h⟩

theorem step_stepS {s s' : MS} {x : Tok} (h : stepTok s x = some s') : stepS ⟨s.mso, s.std⟩ x = some ⟨s'.mso, s'.std⟩ := by
  cases stepTok_inv h with
  | v hn => simpa [stepS] using hn
  | oStd hn => simp [stepS, hn]
  | _ => simp [stepS]

theorem run_runS : ∀ (xs : List Tok) (s r : MS), run s xs = some r → runS ⟨s.mso, s.std⟩ xs = some ⟨r.mso, r.std⟩
  | [], s, r, h => by cases h; rfl
  | x :: xs, s, r, h => by
    obtain ⟨s1, hx, h⟩ := run_cons_eq_some.mp h
    exact runS_cons_eq_some.mpr ⟨_, step_stepS hx, run_runS xs s1 r h⟩

def NeutralS (xs : List Tok) : Prop := ∀ sd, runS ⟨false, sd⟩ xs = some ⟨false, sd⟩

theorem neutralS_of_neutral {xs : List Tok} (h : Neutral xs) : NeutralS xs :=
  fun sd => run_runS xs ⟨false, sd, []⟩ ⟨false, sd, []⟩ (h sd [])

theorem neutralS_nil : NeutralS [] := fun _ => rfl

theorem neutralS_append {xs ys} (hx : NeutralS xs) (hy : NeutralS ys) : NeutralS (xs ++ ys) := by
  intro sd; rw [runS_append, hx]; exact hy sd

theorem neutralS_ite (cnd : Prop) [Decidable cnd] {a b : List Tok} (ha : NeutralS a) (hb : NeutralS b) :
    NeutralS (if cnd then a else b) := by
  split <;> assumption

theorem rawToks_neutralS (b : Bool) : NeutralS (rawToks b) := neutralS_of_neutral (rawToks_neutral b)

theorem closedS (xs : List Tok) (h : runS ⟨false, []⟩ xs = some ⟨false, []⟩) : NeutralS xs :=
  fun sd => runS_frame sd h

theorem sandwichS {pre kids post : List Tok} {S : List Tag} (h1 : runS ⟨false, []⟩ pre = some ⟨false, S⟩) (hk : NeutralS kids)
    (h2 : runS ⟨false, S⟩ post = some ⟨false, []⟩) : NeutralS (pre ++ kids ++ post) := by
  intro sd
  rw [runS_append, runS_append, show runS ⟨false, sd⟩ pre = some ⟨false, S ++ sd⟩ from runS_frame sd h1,
    Option.bind_some, hk]
  exact runS_frame sd h2

/-- every combination of flags, also the one (`wmb` with a background image, not full-width) that `wKids` never produces and
    `emitIW_neutral` excludes -/
theorem emitIW_neutralS (fw bg wmb single txt : Bool) (kids : List SChild) : NeutralS (emitIW fw bg wmb single txt kids) := by
  rw [emitIW, List.append_assoc, List.append_assoc]
  cases fw <;> cases bg <;> cases wmb <;> exact sandwichS rfl (neutralS_of_neutral inner_neutral) rfl

/-- a step of the standard machine is a step of the standard client's checker … -/
theorem StepS.std {s r : SS} {x : Tok} (h : StepS s x r) :
    Expand.Step (· != 1) true false ⟨modeOf s.mso, s.std.map Tag.name⟩ x.toG ⟨modeOf r.mso, r.std.map Tag.name⟩ := by
  cases h with
  | co => exact .co
  | cc => exact .cc
  | t => exact .t nofun
  | @v m _ _ hn =>
    cases m
    · exact .v fun _ _ => hn rfl
    · exact .v fun _ hl => nomatch hl
  | oMso => exact .skipO rfl
  | oStd hn => exact .push rfl fun _ => hn
  | cMso => exact .skipC rfl
  | cStd => exact .pop rfl

/-- … and of the visibility check -/
theorem StepS.vis {s r : SS} {x : Tok} (h : StepS s x r) :
    Expand.Step (fun _ => false) false true ⟨modeOf s.mso, []⟩ x.toG ⟨modeOf r.mso, []⟩ := by
  cases h with
  | co => exact .co
  | cc => exact .cc
  | t => exact .t fun _ => Nat.zero_ne_one
  | v => exact .v nofun
  | oMso | oStd => exact .skipO rfl
  | cMso | cStd => exact .skipC rfl

theorem runS_sim : ∀ (ts : List Tok) (s s' : SS), runS s ts = some s' →
    runE stdStep ⟨modeOf s.mso, s.std.map Tag.name⟩ (ts.map Tok.toG) = .ok ⟨modeOf s'.mso, s'.std.map Tag.name⟩ ∧
    runE visStep ⟨modeOf s.mso, []⟩ (ts.map Tok.toG) = .ok ⟨modeOf s'.mso, []⟩
  | [], s, s', h => by cases h; exact ⟨rfl, rfl⟩
  | x :: xs, s, s', h => by
    obtain ⟨s1, hx, h⟩ := runS_cons_eq_some.mp h
    have ih := runS_sim xs s1 s' h
    exact ⟨Expand.runE_cons_eq_ok.mpr ⟨_, Expand.std_checks.spec.mpr (stepS_inv hx).std, ih.1⟩,
      Expand.runE_cons_eq_ok.mpr ⟨_, Expand.vis_checks.spec.mpr (stepS_inv hx).vis, ih.2⟩⟩

/-- **the combined machine refines the Spec** -/
theorem wf_spec (ts : List Tok) (h : WF ts) :
    StdWF (ts.map Tok.toG) ∧ MsoWF (ts.map Tok.toG) ∧ Visible (ts.map Tok.toG) :=
  have hS := runS_sim ts ⟨false, []⟩ ⟨false, []⟩ (run_runS ts _ _ h)
  ⟨hS.1, run_mso ts _ _ h, Expand.visible_iff.mpr ⟨_, hS.2⟩⟩

end Gomjml.Layout
